import Uhppote.Model.Driver
import Uhppote.Gen.Driver
import Uhppote.Props.C09
import Uhppote.Gen.Source
/-! # C08 — concurrent use is race-free and replies are never crossed between calls (partial)

(a) *No crossing.* With bind port 0 every call has its own ephemeral socket (kernel). With a
fixed bind port the calls share one port; `Model.Driver.step` is that port as an event system
(acquire = lock granted + socket bound + request sent; arrive = a reply reaches the port;
timeout = a deadline fires). The invariant proved by induction over ARBITRARY event sequences:
every reply in flight belongs to the call that owns the port — hence on every schedule in which
no deadline fires while the call's own reply is in flight, nobody ever takes a foreign reply and
no reply is lost. That trace condition follows from the regenerated facts (deadline computed
after the lock) and reply delays below the timeout.
(b) *Race freedom of the modelled skeleton*: the shared variables of the driver are accessed
inside critical sections of one mutex (regenerated fact).
Partial: real interleavings are the Go scheduler's; the `conc` and `lock` streams run the real
driver under the race detector with per-call echo replies. -/
namespace Uhppote.Props.C08
open Uhppote.Model.Driver

/-- Invariant: nothing has been crossed or lost, and the only reply that can be in flight is the one
    to the call that owns the port. -/
def Inv (s : St) : Prop :=
  s.crossed = false ∧ s.lost = [] ∧ (s.inflight = [] ∨ ∃ j, s.inflight = [j] ∧ s.owner = some j)

theorem step_inv (s : St) (e : Ev) (h : Inv s)
    (ht : match e with | .timeout k => k ∉ s.inflight | _ => True) : Inv (step s e) := by
  obtain ⟨hc, hl, hi | ⟨j, hi, ho⟩⟩ := h
  · -- nothing in flight
    cases e with
    | acquire k => cases hown : s.owner <;> simp [step, Inv, hown, hc, hl, hi]
    | arrive j => simp [step, Inv, hc, hl, hi]
    | timeout k => by_cases hk : s.owner = some k <;> simp [step, Inv, hk, hc, hl, hi]
  · -- the owner's own reply is in flight: an arrival can only be that one, and no deadline fires
    cases e with
    | acquire k => simp [step, Inv, ho, hc, hl, hi]
    | arrive j' =>
      by_cases hj : j' = j
      · subst hj; simp [step, Inv, ho, hc, hl, hi]
      · simp [step, Inv, ho, hc, hl, hi, hj]
    | timeout k =>
      have hk : j ≠ k := by simpa [hi, eq_comm] using ht
      simp [step, Inv, ho, hc, hl, hi, hk]

theorem run_inv (s : St) (es : List Ev) (h : Inv s) (ht : TimelyTrace s es) : Inv (run s es) := by
  induction es generalizing s with
  | nil => exact h
  | cons e es ih =>
    exact ih _ (step_inv s e h ht.1) ht.2

/-- **replies are never crossed**: on every schedule of acquisitions, arrivals and deadlines of any
    number of calls sharing one fixed bind port, as long as no deadline fires while the call's own
    reply is in flight, no call ever accepts another call's reply and no reply is lost -/
theorem C08_never_crossed (es : List Ev) (ht : TimelyTrace init es) :
    (run init es).crossed = false ∧ (run init es).lost = [] :=
  let h := run_inv init es ⟨rfl, rfl, Or.inl rfl⟩ ht
  ⟨h.1, h.2.1⟩

/-- the trace condition holds for a call whose controller answers within δ < T of being asked,
    HOWEVER long the call waited for the port, because the deadline is computed after the lock
    (regenerated fact): the own reply (at lock + δ) precedes the deadline (lock + T) -/
theorem C08_own_reply_before_deadline (F : MethodFacts) (hF : F.good = true) (T callTime lockTime δ : Nat)
    (hδ : δ < T) : lockTime + δ < deadlineOf F T callTime lockTime := by
  unfold deadlineOf
  rw [if_pos (C09.good_deadlines F hF)]
  omega

theorem C08_deadline_after_lock : Gen.Driver.BroadcastTo.good = true ∧ Gen.Driver.SendUDP.good = true ∧
    Gen.Driver.SendTCP.good = true := ⟨C09.C09_facts.1, C09.C09_facts.2.1, C09.C09_facts.2.2.1⟩

/-- what goes wrong otherwise (defect D13, repaired): with the deadline computed at call time, a
    call that waited for the port can time out with its reply still in flight, and the NEXT call
    on the port then takes that reply — a wrong card, not just a timeout -/
theorem C08_early_deadline_crosses :
    (run init [.acquire 1, .timeout 1, .acquire 2, .arrive 1]).crossed = true ∧
    deadlineOf { Gen.Driver.BroadcastTo with socketDeadlineAfterLock := false } 400 0 390 ≤ 390 + 50 := by decide

/-- T5: every local that a driver goroutine writes and another goroutine accesses -/
theorem C08_shared_variables :
    Gen.Driver.broadcastShared = [("err", true), ("replies", true)] ∧          -- both only inside the mutex
    Gen.Driver.listenShared = [("closed", false)] := ⟨rfl, rfl⟩

/-- accesses that all lie in critical sections of one mutex cannot race, whatever the schedule
    (distinct sections are ordered by the lock order of the execution) -/
theorem C08_guarded_race_free (as : List Access) (hg : ∀ a ∈ as, a.section_.isSome)
    (hd : ∀ a ∈ as, ∀ b ∈ as, a.goroutine ≠ b.goroutine → a.section_ ≠ b.section_) : raceFree as = true := by
  unfold raceFree
  rw [List.all_eq_true]; intro a ha
  rw [List.all_eq_true]; intro b hb
  by_cases hc : conflicting a b = true
  · simp only [hc, Bool.not_true, Bool.false_or]
    unfold conflicting at hc
    simp only [Bool.and_eq_true, bne_iff_ne, ne_eq] at hc
    have hsec := hd a ha b hb hc.1
    unfold ordered
    cases hx : a.section_ with
    | none => have := hg a ha; simp [hx] at this
    | some x =>
      cases hy : b.section_ with
      | none => have := hg b hb; simp [hy] at this
      | some y =>
        have : x ≠ y := by intro h; apply hsec; rw [hx, hy, h]
        simp [this]
  · simp [hc]

/-- the discovery collector after the repair: the reader goroutine appends inside the mutex, the
    caller reads after the timeout inside the mutex -/
def broadcastSkeleton : List Access :=
  [⟨1, true, some 0⟩, ⟨1, true, some 1⟩, ⟨1, true, some 2⟩,      -- reader: replies = append(…) ×2, err = errx
   ⟨0, false, some 3⟩, ⟨0, false, some 3⟩]                        -- caller: return replies, err

theorem C08_discovery_race_free : raceFree broadcastSkeleton = true := by decide

/-- before the repair (defect D12): the same accesses outside any critical section race -/
theorem C08_unguarded_discovery_races :
    raceFree [⟨1, true, none⟩, ⟨0, false, none⟩] = false := by decide

/-- the listener's `closed` flag is written before `c.Close()` by the shutdown goroutine and read
    by the receive loop only after `ReadFromUDP` failed because of that Close: program order +
    the Close → failing-read edge order the two accesses. (That edge is the runtime's: assumed
    here, observed race-free by the detector in the `conc` stream.) -/
theorem C08_listener_closed_flag_ordered :
    let write : Nat × Nat := (1, 0)      -- (goroutine, position): closed = true
    let close : Nat × Nat := (1, 1)      -- c.Close()
    let fail : Nat × Nat := (2, 0)       -- ReadFromUDP returns an error
    let read : Nat × Nat := (2, 1)       -- if closed
    write.1 = close.1 ∧ write.2 < close.2 ∧ fail.1 = read.1 ∧ fail.2 < read.2 := by decide

/-! non-vacuity -/
example : TimelyTrace init [.acquire 1, .arrive 1, .acquire 2, .arrive 2] := by simp [TimelyTrace]
example : (run init [.acquire 1, .arrive 1, .acquire 2, .arrive 2]).crossed = false := by decide

/-- the client and the driver are immutable after construction: no method stores into its receiver (regenerated
    list of such statements: empty), so goroutines sharing one client share only what they read; what they do share
    for writing is the bind-port mutex, the socket of each call and the discovery collector, which the facts above
    cover -/
theorem C08_client_immutable : Gen.Source.receiverWrites = [] := rfl

/-- all the concurrency the library creates itself (regenerated inventory of `go` statements): the discovery
    collector, the listener's reader and its shutdown watcher, the listener's dispatcher - the request paths start
    none; the facts and theorems above are about exactly these -/
theorem C08_goroutines : Gen.Source.goStatements = ["uhppote/UT0311.go:ut0311.Broadcast: 1", "uhppote/UT0311.go:ut0311.Listen: 2", "uhppote/listen.go:uhppote.Listen: 1"] :=
  C09.C09_goroutines

end Uhppote.Props.C08
