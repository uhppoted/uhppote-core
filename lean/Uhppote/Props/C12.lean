import Uhppote.Gen.BCD
import Uhppote.Proofs.BCD
import Uhppote.Gen.Source
/-! # C12 — BCD coding is exact, total on digit strings and rejects non-decimal nibbles

Property theorems only. `Model.BCD.encode/decode` are the Go loops run with the switch tables
regenerated from `/repo/encoding/bcd/bcd.go` (`Gen.BCD`); `Spec.BCD` is the statement of the
property: pad, two digits per byte, most significant first. -/
namespace Uhppote.Props.C12
open Uhppote.Model.BCD

/-- the tables and masks in the code today (regenerated) -/
def genTables : Tables :=
  { enc := Gen.BCD.encTable, decHi := Gen.BCD.decHiTable, decLo := Gen.BCD.decLoTable,
    hiMask := Gen.BCD.decHiMask, loMask := Gen.BCD.decLoMask }

/-- T5 obligation: the generated switch tables are the decimal tables, the default arms are errors,
    the buffer size and start index are the padding expressions -/
theorem C12_tables : genTables = canonical ∧ Gen.BCD.encDefaultIsError = true ∧
    Gen.BCD.decDefaultIsError = true ∧ Gen.BCD.encInitIx = "len(s) % 2" ∧
    Gen.BCD.encSize = "(len(s) + 1) / 2" := ⟨rfl, rfl, rfl, rfl, rfl⟩

/-- Encoding = pack ∘ pad on digit strings, an error on anything else (all strings, any length). -/
theorem C12_encode (s : Bytes) : encode genTables s = Spec.BCD.encode s := by
  rw [C12_tables.1]; exact Proofs.BCD.encode_model_eq_spec s

/-- ceil(n/2) bytes -/
theorem C12_encode_length (s bs : Bytes) (h : encode genTables s = some bs) :
    bs.length = (s.length + 1) / 2 := by
  obtain ⟨_, rfl⟩ := Proofs.BCD.encode_eq_some.1 (C12_encode s ▸ h)
  rw [Proofs.BCD.pack_length, Proofs.BCD.pad_length]

/-- any non-digit byte (hence any non-digit rune) is an error -/
theorem C12_encode_rejects (s : Bytes) (c : UInt8) (hc : c ∈ s) (hn : Spec.BCD.isDigit c = false) :
    encode genTables s = none := by
  rw [C12_encode]
  unfold Spec.BCD.encode
  have : s.all Spec.BCD.isDigit = false := by
    rw [List.all_eq_false]; exact ⟨c, hc, by simp [hn]⟩
  simp [this]

/-- Decoding = the 2n digits, an error iff some nibble exceeds 9 (all byte slices). -/
theorem C12_decode (bs : Bytes) : decode genTables bs = Spec.BCD.decode bs := by
  rw [C12_tables.1]; exact Proofs.BCD.decode_model_eq_spec bs

theorem C12_decode_length (bs s : Bytes) (h : decode genTables bs = some s) : s.length = 2 * bs.length := by
  obtain ⟨_, rfl⟩ := Proofs.BCD.decode_eq_some.1 (C12_decode bs ▸ h)
  exact Proofs.BCD.unpack_length bs

/-- decode ∘ encode = pad -/
theorem C12_decode_encode (s bs : Bytes) (h : encode genTables s = some bs) :
    decode genTables bs = some (Spec.BCD.pad s) := by
  obtain ⟨hd, rfl⟩ := Proofs.BCD.encode_eq_some.1 (C12_encode s ▸ h)
  obtain ⟨h1, h2⟩ := Proofs.BCD.unpack_pack (Spec.BCD.pad s) (Proofs.BCD.pad_even s) (Proofs.BCD.pad_all s hd)
  rw [C12_decode]; exact Proofs.BCD.decode_eq_some.2 ⟨h2, h1⟩

/-- encode ∘ decode = id -/
theorem C12_encode_decode (bs s : Bytes) (h : decode genTables bs = some s) :
    encode genTables s = some bs := by
  obtain ⟨hd, rfl⟩ := Proofs.BCD.decode_eq_some.1 (C12_decode bs ▸ h)
  rw [C12_tables.1]; exact Proofs.BCD.encode_unpack hd

/-! non-vacuity: concrete strings meet the hypotheses and the functions are not constant -/
example : encode genTables [0x31, 0x32, 0x33] = some [0x01, 0x23] := by decide +kernel
example : encode genTables [0x31, 0x41] = none := by decide +kernel
example : decode genTables [0x20, 0x24, 0x12, 0x31] = some [0x32,0x30,0x32,0x34,0x31,0x32,0x33,0x31] := by decide +kernel
example : decode genTables [0x1a] = none := by decide +kernel

/-- the BCD functions keep nothing between calls: the package-level variables of the four packages (regenerated) are these ten - the
    codec's patterns and kind table, the two card-format patterns, the bind-port mutex, `NOTIMEOUT` and three error
    values - every one of them initialised when its package is loaded. A `sync.Once`, a lazily filled map or a cache
    would have to appear here. -/
theorem C12_package_state : Gen.Source.packageVars = ["encoding/UTO311-L0x/UT0311-L0x.go:var re", "encoding/UTO311-L0x/UT0311-L0x.go:var tBool,tByte,tUint16,…",
    "encoding/UTO311-L0x/UT0311-L0x.go:var vre", "types/card-format.go:var w26", "types/card-format.go:var wAny",
    "uhppote/UT0311.go:var NOTIMEOUT", "uhppote/UT0311.go:var guard", "uhppote/errors.go:var ErrIncorrectController",
    "uhppote/errors.go:var ErrInvalidCard", "uhppote/errors.go:var ErrInvalidListenerAddress"] := rfl

end Uhppote.Props.C12
