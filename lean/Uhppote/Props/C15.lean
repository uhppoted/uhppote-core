import Uhppote.Gen.Addr
import Uhppote.Proofs.Addr
import Uhppote.Gen.Source
/-! # C15 — address parsing accepts exactly IPv4[:port] under each role's port rule

`Model.Addr.parse` = regex pre-filter (unanchored search, modelled as a nondeterministic
matcher for the two literal patterns) + `netip` on the whole string + the role's port rule; the
rules, default ports and regex literals are regenerated (`Gen.Addr`). `netip` is modelled for
strings over digits, '.' and ':'; its behaviour on other strings that pass a gate (e.g.
`::ffff:1.2.3.4`) is outside the property and answered `unspecified`. -/
namespace Uhppote.Props.C15
open Uhppote.Model.Addr Uhppote.Proofs.Addr

/-- T3g: port rules, default ports, omitted ports and the regex gates in the sources today -/
theorem C15_roles :
    Gen.Addr.bind = ⟨true, [60000], 0⟩ ∧ Gen.Addr.broadcast = ⟨true, [0], 60000⟩ ∧
    Gen.Addr.listen = ⟨false, [0, 60000], 0⟩ ∧ Gen.Addr.controller = ⟨true, [0], 60000⟩ ∧
    Gen.Addr.bindOmitPort = some 0 ∧ Gen.Addr.broadcastOmitPort = some 60000 ∧
    Gen.Addr.listenOmitPort = none ∧ Gen.Addr.controllerOmitPort = some 60000 :=
  ⟨rfl, rfl, rfl, rfl, rfl, rfl, rfl, rfl⟩

theorem C15_regexes :
    let ap := "[0-9]{1,3}\\.[0-9]{1,3}\\.[0-9]{1,3}\\.[0-9]{1,3}:[0-9]{1,5}"
    let a := "[0-9]{1,3}\\.[0-9]{1,3}\\.[0-9]{1,3}\\.[0-9]{1,3}"
    Gen.Addr.bindRegexes = [ap, a] ∧ Gen.Addr.broadcastRegexes = [ap, a] ∧
    Gen.Addr.listenRegexes = [ap] ∧ Gen.Addr.controllerRegexes = [ap, a] := ⟨rfl, rfl, rfl, rfl⟩

/-- **a.b.c.d:port**: for all octets 0..255 and all ports 0..65535, every role: accepted with
    exactly that address and port iff the port satisfies the role's rule -/
theorem C15_addr_port (ro : Role) (a b c d p : Nat) (ha : a < 256) (hb : b < 256) (hc : c < 256) (hd : d < 256)
    (hp : p < 65536) :
    parse ro (showQuad a b c d ++ ':' :: dec p) =
      if ro.rejectedPorts.contains p then .err else .ok (a, b, c, d, p) := by
  unfold parse
  rw [hasQuadPort_show a b c d p ha hb hc hd, if_pos rfl,
    netipAddrPort_split _ _ (plain_show a b c d) (no_colon_show a b c d) (dec_all_dig p)
      (parseV4_show a b c d ha hb hc hd) (parsePort_dec p hp)]

/-- **a.b.c.d**: the role's default port (0 bind, 60000 broadcast / controller); a listen address
    must carry its port -/
theorem C15_addr_only (ro : Role) (a b c d : Nat) (ha : a < 256) (hb : b < 256) (hc : c < 256) (hd : d < 256) :
    parse ro (showQuad a b c d) =
      if ro.hasAddrOnlyBranch then .ok (a, b, c, d, ro.defaultPort) else .err := by
  unfold parse
  rw [hasQuadPort_no_colon _ (no_colon_show a b c d), if_neg Bool.false_ne_true, hasQuad_show a b c d ha hb hc hd,
    netipAddr_plain _ (plain_show a b c d) (no_colon_show a b c d) (parseV4_show a b c d ha hb hc hd)]
  simp only [and_true]

/-- every string that contains no dotted quad at all is rejected, by every role -/
theorem C15_no_quad_rejected (ro : Role) (s : List Char) (h : hasQuad s = false) : parse ro s = .err := by
  unfold parse
  have h2 : hasQuadPort s = false := by
    cases hq : hasQuadPort s with
    | false => rfl
    | true => rw [hasQuad_of_hasQuadPort s hq] at h; cases h
  simp [h, h2]

/-- instantiation to the four roles as regenerated: the port rules of the property -/
theorem C15_port_rules (a b c d p : Nat) (ha : a < 256) (hb : b < 256) (hc : c < 256) (hd : d < 256) (hp : p < 65536) :
    let s := showQuad a b c d ++ ':' :: dec p
    (parse Gen.Addr.bind s = if p = 60000 then .err else .ok (a, b, c, d, p)) ∧
    (parse Gen.Addr.broadcast s = if p = 0 then .err else .ok (a, b, c, d, p)) ∧
    (parse Gen.Addr.listen s = if p = 0 ∨ p = 60000 then .err else .ok (a, b, c, d, p)) ∧
    (parse Gen.Addr.controller s = if p = 0 then .err else .ok (a, b, c, d, p)) := by
  obtain ⟨r1, r2, r3, r4, _⟩ := C15_roles
  simp only [C15_addr_port _ a b c d p ha hb hc hd hp, r1, r2, r3, r4]
  refine ⟨?_, ?_, ?_, ?_⟩ <;>
    simp only [List.contains_cons, List.contains_nil, Bool.or_false, Bool.or_eq_true, beq_iff_eq]

/-- format then parse returns the same address and port, for every address the role accepts -/
theorem C15_format_parse (ro : Role) (om : Option Nat) (hom : ∀ q, om = some q → q = ro.defaultPort ∧ ro.hasAddrOnlyBranch = true)
    (a b c d p : Nat) (ha : a < 256) (hb : b < 256) (hc : c < 256) (hd : d < 256) (hp : p < 65536)
    (hacc : ro.rejectedPorts.contains p = false) :
    parse ro (format om a b c d p) = .ok (a, b, c, d, p) := by
  unfold format
  by_cases h : om = some p
  · obtain ⟨h1, h2⟩ := hom p h
    simp only [h, if_true, C15_addr_only ro a b c d ha hb hc hd, h2, h1]
  · simp only [h, if_false, C15_addr_port ro a b c d p ha hb hc hd hp, hacc]
    simp

/-! non-vacuity -/
example : parse Gen.Addr.listen "192.168.1.100:60001".toList = .ok (192, 168, 1, 100, 60001) := by decide +kernel
example : parse Gen.Addr.listen "192.168.1.100:60000".toList = .err := by decide +kernel
example : parse Gen.Addr.bind "192.168.1.100".toList = .ok (192, 168, 1, 100, 0) := by decide +kernel
example : parse Gen.Addr.controller "qwerty".toList = .err := by decide +kernel
example : hasQuad "1.2.3".toList = false := by decide +kernel

/-- no address parser keeps anything between calls (patterns compiled by whichever role is parsed first): the package-level variables of the four packages (regenerated) are these ten - the
    codec's patterns and kind table, the two card-format patterns, the bind-port mutex, `NOTIMEOUT` and three error
    values - every one of them initialised when its package is loaded. A `sync.Once`, a lazily filled map or a cache
    would have to appear here. -/
theorem C15_package_state : Gen.Source.packageVars = ["encoding/UTO311-L0x/UT0311-L0x.go:var re", "encoding/UTO311-L0x/UT0311-L0x.go:var tBool,tByte,tUint16,…",
    "encoding/UTO311-L0x/UT0311-L0x.go:var vre", "types/card-format.go:var w26", "types/card-format.go:var wAny",
    "uhppote/UT0311.go:var NOTIMEOUT", "uhppote/UT0311.go:var guard", "uhppote/errors.go:var ErrIncorrectController",
    "uhppote/errors.go:var ErrInvalidCard", "uhppote/errors.go:var ErrInvalidListenerAddress"] := rfl

end Uhppote.Props.C15
