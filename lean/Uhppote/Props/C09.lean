import Uhppote.Model.Driver
import Uhppote.Gen.Driver
import Uhppote.Gen.Source
/-! # C09 — every call ends within its timeout and releases its socket and goroutines (partial)

`Model.Driver.exchange` is one request method of uhppote/UT0311.go as a timed function of what
arrives, parametrised by the statement-order facts the translator regenerates. Partial: the
model's clock is abstract; wall-clock, the descriptor table and the scheduler are the Go
runtime's and the kernel's — they are observed by the `drv`, `lock` and `leak` streams on
loopback sockets. -/
namespace Uhppote.Props.C09
open Uhppote.Model.Driver

/-- T5: the statement order of the three directed / filtered request methods today: the lock is
    taken (for a fixed bind port) before the socket is opened and released by defer; BOTH deadlines
    (dial and socket) are computed after the lock; Close is deferred right after a successful
    open; exactly one write; function code 0x96 returns without reading -/
theorem C09_facts : Gen.Driver.BroadcastTo.good = true ∧ Gen.Driver.SendUDP.good = true ∧
    Gen.Driver.SendTCP.good = true ∧ Gen.Driver.BroadcastTo.readsInLoop = true ∧
    Gen.Driver.SendUDP.readsInLoop = false ∧ Gen.Driver.SendTCP.readsInLoop = false ∧
    Gen.Driver.Broadcast.closeDeferredAfterOpen = true ∧ Gen.Driver.Broadcast.sleepsForTimeout = true ∧
    Gen.Driver.Broadcast.writes = 1 := by decide

/-- what the timing theorems use of `good`: both deadlines are computed after the lock -/
theorem good_deadlines (F : MethodFacts) (hF : F.good = true) :
    F.socketDeadlineAfterLock = true ∧ F.firstDeadlineAfterLock = true := by
  simp only [MethodFacts.good, Bool.and_eq_true] at hF
  exact ⟨hF.1.1.1.1.1.2, hF.1.1.1.1.1.1.2⟩

theorem budget_good (F : MethodFacts) (hF : F.good = true) (T waited : Nat) : budget F T waited = T :=
  if_pos (good_deadlines F hF)

/-- **never later than the timeout**: whatever the network does (silence, late replies, a flood of
    non-passing datagrams, accept-and-stall, reset, refused), the call returns at most one timeout
    after it acquired the port — which it also holds for at most one timeout -/
theorem C09_returns_within_timeout (F : MethodFacts) (path : Path) (T waited : Nat) (sp : Special) (arr : List Arrival) :
    (exchange F path T waited sp arr).2 ≤ budget F T waited ∧ budget F T waited ≤ T := by
  have hb : budget F T waited ≤ T := by unfold budget; split <;> omega
  refine ⟨?_, hb⟩
  unfold exchange
  generalize budget F T waited = d
  cases sp with
  | refused | reset => exact Nat.zero_le d
  | stall => exact Nat.le_refl d
  | none =>
    -- an accepted datagram arrived before the deadline `d`; otherwise the call returns at `d`
    cases path with
    | broadcastTo =>
      simp only
      split
      · rename_i a ha
        have := List.find?_some ha
        simp only [Bool.and_eq_true, decide_eq_true_eq] at this
        exact Nat.le_of_lt this.2
      · exact Nat.le_refl d
    | udp | tcp =>
      simp only
      split
      · split
        · rename_i h; exact Nat.le_of_lt h
        · exact Nat.le_refl d
      · exact Nat.le_refl d

/-- the time a TCP connection takes to come up is part of the one timeout, not in addition to it: with the
    regenerated fact (SendTCP computes `deadline` once and hands that value to the dialer and to the
    connection) a controller that accepts late and never answers makes the call return exactly one
    timeout after the port was acquired, whatever the connect time -/
theorem C09_tcp_connect_time_counts (T connect : Nat) :
    tcpStallReturn Gen.Driver.tcpSingleDeadline T connect = T := by
  have h : Gen.Driver.tcpSingleDeadline = true := by decide
  unfold tcpStallReturn
  rw [h]
  split <;> rfl

/-- … and why the fact matters: a deadline recomputed after the connect adds the connect time -/
example : tcpStallReturn false 2500 1000 = 3500 := by decide

/-- with no acceptable datagram the call fails (an error result), never a made-up value -/
theorem C09_silence_is_an_error (F : MethodFacts) (path : Path) (T waited : Nat) :
    (exchange F path T waited .none []).1 = false ∧ (exchange F path T waited .stall []).1 = false := by
  cases path <;> simp [exchange]

/-- **never gives up early** (broadcast path): the first passing datagram that arrives any time
    before one full timeout after the port was acquired is accepted — however long the call had
    to wait for the port first -/
theorem C09_never_early_broadcast (F : MethodFacts) (hF : F.good = true) (T waited : Nat)
    (pre post : List Arrival) (a : Arrival) (hpre : ∀ x ∈ pre, x.passes = false)
    (hp : a.passes = true) (hv : a.valid = true) (ht : a.t < T) :
    exchange F .broadcastTo T waited .none (pre ++ a :: post) = (true, a.t) := by
  simp only [exchange, budget_good F hF]
  have : (pre ++ a :: post).find? (fun x => x.passes && decide (x.t < T)) = some a := by
    have h1 : pre.find? (fun x => x.passes && decide (x.t < T)) = none := by
      rw [List.find?_eq_none]; intro x hx; simp [hpre x hx]
    simp [h1, hp, ht]
  simp [this, hv]

/-- … and on the directed paths the first datagram decides, if it arrives before the deadline -/
theorem C09_never_early_directed (F : MethodFacts) (hF : F.good = true) (path : Path) (hpath : path ≠ .broadcastTo)
    (T waited : Nat) (a : Arrival) (rest : List Arrival) (ht : a.t < T) :
    exchange F path T waited .none (a :: rest) = (a.passes && a.valid, a.t) := by
  cases path <;> simp [exchange, budget_good F hF, ht] at *

/-- why the order of `deadline :=` and `guard.Lock()` matters (defect D13, repaired): with the
    deadline computed before the lock, a call that waited a whole timeout for the port gives up at
    once although its controller answers after 50 ms -/
theorem C09_deadline_before_lock_gives_up_early :
    exchange { Gen.Driver.BroadcastTo with socketDeadlineAfterLock := false } .broadcastTo 400 400 .none
      [⟨50, true, true⟩] = (false, 0) := by decide

/-- **resources**: after any sequence of calls (requests and discoveries) the process holds the
    sockets and goroutines it held before -/
theorem C09_resources_restored (F : MethodFacts) (hF : F.closeDeferredAfterOpen = true) :
    ∀ (calls : List Bool) (r : Res), afterCalls F calls r = r
  | [], _ => rfl
  | d :: ds, r => by
    have h1 : afterCall F d r = r := by simp [afterCall, hF]
    simp only [afterCalls, h1]
    exact C09_resources_restored F hF ds r

theorem C09_resources_all_methods (calls : List Bool) (r : Res) :
    afterCalls Gen.Driver.BroadcastTo calls r = r ∧ afterCalls Gen.Driver.SendUDP calls r = r ∧
    afterCalls Gen.Driver.SendTCP calls r = r ∧ afterCalls Gen.Driver.Broadcast calls r = r :=
  ⟨C09_resources_restored _ (by decide) calls r, C09_resources_restored _ (by decide) calls r,
   C09_resources_restored _ (by decide) calls r, C09_resources_restored _ (by decide) calls r⟩

/-! non-vacuity -/
example : exchange Gen.Driver.BroadcastTo .broadcastTo 200 150 .none [⟨10, false, false⟩, ⟨30, true, true⟩, ⟨40, true, true⟩] = (true, 30) := by decide
example : exchange Gen.Driver.SendTCP .tcp 200 0 .stall [] = (false, 200) := by decide
example : afterCall { Gen.Driver.Broadcast with closeDeferredAfterOpen := false } true ⟨3, 5⟩ = ⟨4, 6⟩ := by decide

/-- "any goroutine it started ends promptly": the goroutines there are to end (regenerated inventory of `go`
    statements) - the request paths start none, discovery one collector, the listener a reader, a shutdown watcher and
    a dispatcher; the `leak` stream counts goroutines around calls of each of them -/
theorem C09_goroutines : Gen.Source.goStatements = ["uhppote/UT0311.go:ut0311.Broadcast: 1", "uhppote/UT0311.go:ut0311.Listen: 2", "uhppote/listen.go:uhppote.Listen: 1"] := rfl

end Uhppote.Props.C09
