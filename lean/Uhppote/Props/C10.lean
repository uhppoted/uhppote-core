import Uhppote.Model.Events
import Uhppote.Gen.Messages
import Uhppote.Props.C04
import Uhppote.Gen.Driver
import Uhppote.Proofs.Buffers
import Uhppote.Props.C02
import Uhppote.Gen.Source
/-! # C10 — the event listener delivers every valid event once, in order, and nothing else (partial)

`Model.Events.listenTrace` is the handler of `uhppote.listen` followed by the status mapping of
`Listen`, as a function of the datagram sequence. Partial: re-binding the listen socket after
shutdown is kernel behaviour; the relative order of an error callback (made by the receive
loop) and an event callback (made by the dispatch goroutine) is not defined by the code and is not
claimed — events are ordered among themselves. Likewise `connected` is called by `uhppote.listen`
after `driver.Listen` has started the receive loop, so a datagram that is already waiting can be
delivered before it: the model puts `connected` first, of the code only "exactly once" is claimed
(which is all the property states: "fires once after the socket is bound"). -/
namespace Uhppote.Props.C10
open Uhppote.Model Uhppote.Model.Api Uhppote.Model.Events

variable (F : CodecFacts) (T : BCD.Tables) (B : HHmmBounds) (E : Layout)

/-- connected first, then exactly one callback per datagram -/
theorem C10_one_callback_each (ds : List Bytes) :
    (listenTrace F T B E ds).head? = some .connected ∧ (listenTrace F T B E ds).length = ds.length + 1 := by
  simp [listenTrace]

/-- the k-th callback after `connected` is determined by the k-th datagram alone: nothing a
    datagram contains can influence how another one is reported (no state between datagrams) -/
theorem C10_independent (ds : List Bytes) (k : Nat) (hk : k < ds.length) :
    (listenTrace F T B E ds)[k + 1]? = some (classify F T B E ds[k]) := by
  simp [listenTrace, hk]

/-- order preservation: a later batch of datagrams is reported after an earlier one, unchanged -/
theorem C10_order (xs ys : List Bytes) :
    listenTrace F T B E (xs ++ ys) = listenTrace F T B E xs ++ ys.map (classify F T B E) := by
  simp [listenTrace]

/-- only a 64-byte datagram with a non-zero serial number that decodes as a status message is an
    event; everything else is exactly one error -/
theorem C10_event_only_if_well_formed (d : Bytes) (s : List Val) (h : classify F T B E d = .event s) :
    d.length = 64 ∧ serialOf d ≠ 0 ∧ ∃ r, unmarshal F T B E d = .ok r ∧ statusResult r = .vals s := by
  unfold classify at h
  split at h
  · cases h
  · rename_i hl
    split at h
    · cases h
    · rename_i hs
      split at h
      · rename_i r hr
        split at h
        · rename_i s' hst
          cases h
          exact ⟨by simpa using hl, hs, r, hr, hst⟩
        · cases h
      · cases h

/-- … and conversely every such datagram IS handed to the event callback (with exactly that status):
    nothing well-formed is dropped or turned into an error -/
theorem C10_well_formed_is_event (d : Bytes) (r s : List Val) (hl : d.length = 64) (hs : serialOf d ≠ 0)
    (hr : unmarshal F T B E d = .ok r) (hst : statusResult r = .vals s) : classify F T B E d = .event s := by
  unfold classify
  simp [hl, hs, hr, hst]

theorem C10_wrong_length_is_error (d : Bytes) (h : d.length ≠ 64) : classify F T B E d = .error := by
  simp [classify, h]

theorem C10_serial_zero_is_error (d : Bytes) (h : serialOf d = 0) : classify F T B E d = .error := by
  unfold classify
  rw [if_pos h]
  split <;> rfl

/-- the handler cannot panic on any datagram (shipped event layout, C04) -/
theorem C10_no_panic (L : Layout) (h : Gen.Messages.all.lookup "GetStatusResponse" = some L) (d : Bytes) :
    unmarshal Gen.codecFacts C12.genTables C18.wireBounds L d ≠ .panic :=
  C04.C04_unmarshal_total _ L h d

/-- the event struct has no slice-typed field: a decoded status cannot alias the receive buffer
    (generated layout of the event message: no raw IP / MAC kinds) -/
theorem C10_event_has_no_views :
    ((Gen.Messages.all.lookup "GetStatusResponse").getD []).leaves.all (fun l => match l with
      | .at _ .mac _ | .at _ .ipv4 _ | .at _ .macAddress _ => false
      | _ => true) = true ∧
    ((Gen.Messages.all.lookup "GetStatusResponse").getD []).leaves.length = 25 := by decide +kernel

/-- T5 obligation: the receive buffer of `Listen` is larger than a message, so an over-long datagram (a valid event followed by more bytes) is seen as over-long and hence is an error callback, never an event
    (`C10_wrong_length_is_error` applied to what the buffer holds, `Proofs.Buffers.length_visible`) -/
theorem C10_receive_buffer : (Gen.Driver.bufSizes.lookup "Listen").map (fun n => decide (64 < n)) = some true := by decide

theorem C10_overlong_seen (n : Nat) (h : 64 < n) (d : Bytes) (hd : d.length ≠ 64) : (received n d).length ≠ 64 :=
  Proofs.Buffers.overlong_seen n h d hd

/-- **every field of a delivered status is the protocol decoding of the datagram**: an event callback carries the status
    mapping (the C02 mapping: `C02_result_positional`) of a reply struct that lies in the protocol's
    decoding relation for that datagram (`C18_unmarshal_sound`, shipped event layout) -/
theorem C10_event_is_protocol_decoding (L : Layout) (h : Gen.Messages.all.lookup "GetStatusResponse" = some L)
    (d : Bytes) (s : List Val)
    (hev : classify Gen.codecFacts C12.genTables C18.wireBounds L d = .event s) :
    ∃ r, statusResult r = .vals s ∧ Spec.Codec.acceptsUnmarshal L.leaves d (.ok r) = true := by
  obtain ⟨_, _, r, hr, hs⟩ := C10_event_only_if_well_formed _ _ _ L d s hev
  have hd := C02.C02_decode_relation "GetStatusResponse" L h d
  rw [hr] at hd
  exact ⟨r, hs, hd⟩

/-- the status mapping `classify` applies to a decoded event is the one translated from `Listen` in
    uhppote/listen.go on this run (which event field goes where, the system date-time closure, the event
    part filled exactly when the event index is non-zero) -/
theorem C10_status_mapping_regenerated (r : List Val) : Gen.Status.listenStatus r = statusResult r :=
  (C02.C02_status_regenerated r).2

/-- one reader, one dispatcher: the regenerated inventory of `go` statements - `ut0311.Listen` starts the socket
    reader and the shutdown watcher, `uhppote.Listen` the single dispatcher that calls the application; datagrams are
    decoded by the reader before the next read (the regenerated order facts above), so arrival order is delivery order -/
theorem C10_goroutines : Gen.Source.goStatements = ["uhppote/UT0311.go:ut0311.Broadcast: 1", "uhppote/UT0311.go:ut0311.Listen: 2", "uhppote/listen.go:uhppote.Listen: 1"] := rfl

end Uhppote.Props.C10
