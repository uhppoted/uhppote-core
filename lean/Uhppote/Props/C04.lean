import Uhppote.Gen.Messages
import Uhppote.Gen.Types
import Uhppote.Props.C18
import Uhppote.Proofs.Layouts
import Uhppote.Gen.Routing
import Uhppote.Gen.Source
/-! # C04 — nothing the network or the caller supplies can crash the library

`Outcome.panic` is an explicit outcome of every modelled slice / index operation. Theorems: for
every shipped message type (layouts regenerated) and EVERY byte string of any length the decoder
and the dispatchers return a value or an error; encoding in-domain values never panics (C05); the
string table of `ControlState` is guarded. Arbitrary argument tuples of the operations and the
rendering of every returned value are exercised with `recover` by the ops / msgs streams. -/
namespace Uhppote.Props.C04
open Uhppote.Model

/-- decoding any byte string as any shipped message type never panics -/
theorem C04_unmarshal_total (n : String) (L : Layout) (h : Gen.Messages.all.lookup n = some L) (bytes : Bytes) :
    unmarshal Gen.codecFacts C12.genTables C18.wireBounds L bytes ≠ .panic :=
  C18.C18_unmarshal_no_panic L (Proofs.Layouts.wf_of_lookup h) bytes

/-- encoding any shipped message type never panics, **whatever values its fields hold** (an 8-byte MAC, a date past
    year 9999, 100 hours, an address that is not IPv4: the request an operation builds from arbitrary arguments) -/
theorem C04_marshal_total (n : String) (L : Layout) (h : Gen.Messages.all.lookup n = some L) (vs : List Val)
    (hgo : Proofs.Codec.allGo vs) : marshal Gen.codecFacts C12.genTables L vs ≠ .panic :=
  (C18.C18_confined L vs (Proofs.Layouts.wf_of_lookup h) hgo).1

/-- the dispatchers never panic, whatever the table says -/
theorem C04_dispatch_total (table : List (Nat × String)) (bytes : Bytes) :
    dispatch Gen.codecFacts C12.genTables C18.wireBounds table (fun n => Gen.Messages.all.lookup n) bytes ≠ .panic := by
  unfold dispatch
  split
  · simp
  · split
    · simp
    · split
      · simp
      · split
        · simp
        · rename_i n _ L hL
          have := C04_unmarshal_total _ L hL bytes
          split
          · simp
          · simp
          · rename_i hp; exact absurd hp this

/-- the listener's handler and `sendto` check the length before any indexed access
    (regenerated list of sendto's checks: `len(response) != 64` precedes `response[4:8]`) -/
theorem C04_length_checked_first :
    (Gen.Routing.sendtoChecks.idxOf "len(response) != 64") <
    (Gen.Routing.sendtoChecks.idxOf "ID := binary.LittleEndian.Uint32(response[4:8]); serialNumber != 0 && ID != serialNumber") := by
  decide +kernel

/-- T5: `ControlState.String` indexes a table by the value behind a range guard, and
    `MarshalJSON` goes through `String` -/
theorem C04_control_state_guarded :
    Gen.Types.controlStateStringGuard = "v < 0 || int(v) >= len(states)" ∧
    Gen.Types.controlStateStringTable.length = 4 ∧
    Gen.Types.controlStateMarshalJSONDelegatesToString = true ∧
    Gen.Types.controlStateMarshalJSONIndexesByValue = false := by decide

/-- rendering the control state of a door never panics, whatever byte the controller sent -/
theorem C04_control_state_render (b : UInt8) :
    renderControlState Gen.Types.controlStateStringTable.length
      (Gen.Types.controlStateStringGuard == "v < 0 || int(v) >= len(states)") b.toNat ≠ .panic := by
  have : (Gen.Types.controlStateStringGuard == "v < 0 || int(v) >= len(states)") = true := by decide
  simp [renderControlState, this]

/-! non-vacuity: without the guard a wire byte of 7 would index past the table -/
example : renderControlState 4 false 7 = .panic := by decide
example : renderControlState 4 false 3 = .ok () := by decide

/-- where the library panics on purpose (regenerated inventory of `panic(…)` calls in the four packages): the five
    `MustParse…` constructors, whose contract that is; the two "field of an unsupported type" branches of the codec,
    unreachable for the kinds of `C18`; and `HHmm.before / after` for an argument that is neither a time nor an HH:mm,
    unreachable through the exported `Before / After` of the two supported types. Every other panic would have to come
    from an index, a slice, a nil dereference or a map write - which is what the model's explicit `.panic` outcomes
    and the recover-guarded streams are about. -/
theorem C04_panic_sites : Gen.Source.panicSites =
    ["encoding/UTO311-L0x/UT0311-L0x.go:marshal: 1", "encoding/UTO311-L0x/UT0311-L0x.go:unmarshal: 1",
     "types/HHmm.go:HHmm.before: 1", "types/HHmm.go:HHmm.after: 1",
     "types/bind_addr.go:MustParseBindAddr: 1", "types/broadcast_addr.go:MustParseBroadcastAddr: 1",
     "types/controller_addr.go:MustParseControllerAddr: 1", "types/date.go:MustParseDate: 1",
     "types/listen_addr.go:MustParseListenAddr: 1"] := rfl

end Uhppote.Props.C04
