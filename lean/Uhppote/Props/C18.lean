import Uhppote.Gen.Facts
import Uhppote.Gen.BCD
import Uhppote.Gen.Types
import Uhppote.Props.C12
import Uhppote.Proofs.CodecMarshal
import Uhppote.Proofs.CodecRoundTrip
import Uhppote.Gen.Source
/-! # C18 — the codec is generic over message layouts

Theorems about `Model.marshal` / `Model.unmarshal` for **every** layout that can be declared with
the tag grammar (`Spec.Codec.wf`: fields of the supported kinds at non-overlapping offsets 2..63
that fit inside the 64 bytes, decimal or hexadecimal value tags, one level of embedding), run
with the facts the translator reads off the codec source (`Gen.codecFacts`), the BCD switch
tables (`Gen.BCD`) and the HH:mm bounds (`Gen.Types`). -/
namespace Uhppote.Props.C18
open Uhppote.Model Uhppote.Spec.Codec

/-- HH:mm bounds of the wire decoder as they are in types/HHmm.go today -/
def wireBounds : HHmmBounds :=
  ⟨Gen.Types.hhmmMaxHoursWire, Gen.Types.hhmmMaxMinutesWire, Gen.Types.hhmm24RuleWire⟩

/-- T5 obligation: the statements of the codec the model depends on are what the theorems need
    (64-byte zeroed buffer with 0x17 preset; length and protocol-id checks; the uint16/uint32
    accessors slice exactly their width, little-endian; value tags parsed with base 0; the error
    of an embedded struct is returned; the MAC and IPv4 readers copy; booleans are 0/1). -/
theorem C18_facts : Gen.codecFacts = goodFacts := rfl

theorem C18_tag_grammar : Gen.offsetRegex = "offset:\\s*([0-9]+)" ∧
    Gen.valueRegex = "value:\\s*((?:0[xX])?[0-9a-fA-F]+)" := ⟨rfl, rfl⟩

theorem C18_hhmm_bounds : wireBounds = ⟨24, 59, true⟩ := rfl

/-- (i) **encoding = image, no panic**: for every well-formed layout and all in-domain values,
    `Marshal` writes exactly each field's wire bytes at its declared offset, the function code
    and protocol id from the tags, and zero in every other byte — also for a field that ends on
    the last byte. -/
theorem C18_marshal_image (L : Layout) (vs : List Val) (img : Bytes)
    (hwf : wf L.leaves = true) (himg : image L.leaves vs = some img) :
    marshal Gen.codecFacts C12.genTables L vs = .ok img := by
  rw [C18_facts, C12.C12_tables.1]
  exact Proofs.Codec.marshal_image L vs img hwf himg

/-- (ii) **decode ∘ encode = id**: for every well-formed layout, decoding what `Marshal` wrote
    returns the encoded values — each in-domain value itself, except for the observational
    equalities spelled out in `Spec.Codec.back` (IPv4 in Go's 16-byte form, a pointer to the zero
    date/date-time as nil; header fields as the bytes their tags fix). `hh`: the protocol id the
    layout's SOM field emits, if it has one, is one `Unmarshal` accepts (see `C18_header_ok`). -/
theorem C18_round_trip (L : Layout) (vs ws : List Val) (img : Bytes)
    (hwf : wf L.leaves = true) (himg : image L.leaves vs = some img)
    (hback : backAll L.leaves vs = some ws) (hh : headerOk img = true) :
    marshal Gen.codecFacts C12.genTables L vs = .ok img ∧
    unmarshal Gen.codecFacts C12.genTables wireBounds L img = .ok ws := by
  refine ⟨C18_marshal_image L vs img hwf himg, ?_⟩
  rw [C18_facts, C12.C12_tables.1, C18_hhmm_bounds]
  exact Proofs.Codec.unmarshal_image L vs ws img hwf himg hback hh

/-- the header condition of (ii) holds for every layout without a SOM field (byte 0 is the preset
    0x17) and for `SOM value:0x19` + `MsgType value:0x20` (the shape of the v6.62 event) -/
theorem C18_header_ok (L : Layout) (vs : List Val) (img : Bytes) (hwf : wf L.leaves = true)
    (himg : image L.leaves vs = some img) (hs : Proofs.Codec.hdrShape L.leaves = true) :
    headerOk img = true :=
  Proofs.Codec.headerOk_image L.leaves vs img hwf himg hs

/-- (ii′) **distinct values never share an encoding**: two in-domain value tuples with the same
    image decode to the same values, i.e. they are equal up to the observational equalities -/
theorem C18_injective (L : Layout) (vs vs' ws ws' : List Val) (img : Bytes)
    (hwf : wf L.leaves = true) (h1 : image L.leaves vs = some img) (h2 : image L.leaves vs' = some img)
    (hb1 : backAll L.leaves vs = some ws) (hb2 : backAll L.leaves vs' = some ws')
    (hh : headerOk img = true) : ws = ws' := by
  have a := (C18_round_trip L vs ws img hwf h1 hb1 hh).2
  have b := (C18_round_trip L vs' ws' img hwf h2 hb2 hh).2
  rw [a] at b
  injection b

/-- (iii′) **decoding is sound on every byte string**: for every well-formed layout and EVERY byte
    string of any length, what `Unmarshal` returns is accepted by the specification's decoding
    relation `Spec.Codec.acceptsUnmarshal` — a returned value has, field by field, exactly the
    protocol decoding of that field's bytes (in-domain bytes), or "no value" for the sentinels, or
    the zero value for out-of-domain bytes of the nil-tolerant kinds; an error is returned only if the
    header is wrong or some field is out of its domain / has the wrong fixed value; never a panic.
    In particular an out-of-domain field is never reported as a different in-domain value. -/
theorem C18_unmarshal_sound (L : Layout) (hwf : wf L.leaves = true) (bytes : Bytes) :
    acceptsUnmarshal L.leaves bytes
      (Proofs.Codec.toResult (unmarshal Gen.codecFacts C12.genTables wireBounds L bytes)) = true := by
  rw [C18_facts, C12.C12_tables.1, C18_hhmm_bounds]
  exact Proofs.Codec.unmarshal_sound L hwf bytes

/-- (iii) **decoding never panics**: for every well-formed layout and every byte string of any length - the decoding
    relation of (iii′) accepts no panic. -/
theorem C18_unmarshal_no_panic (L : Layout) (hwf : wf L.leaves = true) (bytes : Bytes) :
    unmarshal Gen.codecFacts C12.genTables wireBounds L bytes ≠ .panic := by
  intro hp
  have := C18_unmarshal_sound L hwf bytes
  rw [hp] at this
  cases this

/-- (iv-a) value tags on encode: a decimal or hexadecimal `value:` tag is what is emitted — this
    is part of `image` (`leafWire` of a tagged SOM / MsgType / byte field is its tag value) -/
theorem C18_tag_emitted (t : String) (n : Nat) (h : tagValue t = some n) (v : Val) (off : Nat) :
    leafWire (.msgType (some t)) v = some (1, [UInt8.ofNat n]) ∧
    leafWire (.som (some t)) v = some (0, [UInt8.ofNat n]) ∧
    leafWire (.at off .u8 (some t)) v = some (off, [UInt8.ofNat n]) := by
  simp [leafWire, h]

/-- (iv-b) value tags on decode: a message whose function code differs from the tag is rejected -/
theorem C18_msgtype_enforced (t : String) (n : Nat) (h : tagValue t = some n) (rest : List Field)
    (bytes : Bytes) (hne : (bytes.getD 1 0).toNat ≠ n) :
    unmarshal Gen.codecFacts C12.genTables wireBounds (.leaf "MsgType" (.msgType (some t)) :: rest) bytes = .err := by
  rw [C18_facts]
  unfold unmarshal
  split
  · rfl
  · split
    · rfl
    · simp only [unmarshalFields, Proofs.Codec.unmarshalLeaf_msgType h, hne, ne_eq, not_false_eq_true, if_true]

/-- (iv-c) a fixed-value byte field that does not carry its value is rejected -/
theorem C18_fixed_byte_enforced (t : String) (n off : Nat) (h : tagValue t = some n)
    (bytes : Bytes) (hl : bytes.length = 64) (ho : off + 1 ≤ 64)
    (hne : (bytes.getD off 0).toNat ≠ n) :
    unmarshalLeaf Gen.codecFacts C12.genTables wireBounds bytes (.at off .u8 (some t)) = .err := by
  rw [C18_facts, Proofs.Codec.unmarshalLeaf_fixed h, if_pos (by omega), if_pos hne]

/-- (v) decoded values share no memory with the input: the only two readers that hand a slice
    to `SetBytes` copy (generated facts; the dynamic half is the aliasing correspondence run) -/
theorem C18_readers_copy : Gen.codecFacts.macReaderCopies = true ∧ Gen.codecFacts.ipReaderCopies = true :=
  ⟨rfl, rfl⟩

/-- (vi) **values outside their domain stay inside their field, and nothing panics**: for every well-formed layout and
    EVERY tuple of values a Go program can hold - a MAC of 8 bytes, a date past year 9999, an HH:mm of 100 hours, an
    address that is not IPv4, a PIN above 999999 - `Marshal` returns bytes or an error, never panics, and when it
    returns bytes every position outside the ranges of the out-of-domain fields is exactly what the image rule says
    (the other fields' wire bytes at their offsets, the protocol id, zero elsewhere). `goValue` only says that a
    `SystemDate` / `SystemTime` holds calendar fields (they wrap a `time.Time`). This is the statement D16 violated. -/
theorem C18_confined (L : Layout) (vs : List Val) (hwf : wf L.leaves = true) (hgo : Proofs.Codec.allGo vs) :
    marshal Gen.codecFacts C12.genTables L vs ≠ .panic ∧
    ∀ out, marshal Gen.codecFacts C12.genTables L vs = .ok out → confined L.leaves vs out = true := by
  rw [C18_facts, C12.C12_tables.1]
  exact Proofs.Codec.marshal_confined L vs hwf hgo

/-- T5 obligation behind (vi): the three encoders whose digits come from formatting a value refuse one that does not
    fill exactly its field - the regenerated guard constants (`len(*encoded) != N` returning an error in
    `Date`, `DateTime` and `HHmm.MarshalUT0311L0x`) are the widths of the fields, which is what the model's `fitting`
    steps say (before the repair of D16 the list read 0, 0, 0) -/
theorem C18_width_guards : Gen.Types.marshalWidthGuards =
    [("Date", Kind.width .date), ("DateTime", Kind.width .dateTime), ("HHmm", Kind.width .hhmm)] := rfl

/-! non-vacuity of (vi): an 8-byte MAC in front of a two-byte field, an HH:mm of 100:01 on the last two bytes - the
    layout is well formed, the values are Go values, neither is in its domain, bytes come back, and they are confined -/
def wildLayout : Layout :=
  [.leaf "M" (.at 8 .macAddress none), .leaf "V" (.at 14 .version none), .leaf "T" (.at 62 .hhmm none)]
def wildValues : List Val := [.mac [1, 2, 3, 4, 5, 6, 7, 8], .u16 0x0892, .hhmm ⟨100, 1⟩]

example : wf wildLayout.leaves = true := by decide
example : Proofs.Codec.allGo wildValues := by intro v hv; simp [wildValues] at hv; rcases hv with rfl | rfl | rfl <;> rfl
example : image wildLayout.leaves wildValues = none := by decide
example : marshal Gen.codecFacts C12.genTables wildLayout wildValues
    = .ok ([0x17, 0, 0, 0, 0, 0, 0, 0, 1, 2, 3, 4, 5, 6, 0x08, 0x92] ++ zeros 48) := by decide +kernel
example : confined wildLayout.leaves wildValues ([0x17, 0, 0, 0, 0, 0, 0, 0, 1, 2, 3, 4, 5, 6, 0x08, 0x92] ++ zeros 48) = true := by
  decide

/-- ... and a result in which the MAC had run over into the next field would not be -/
example : confined wildLayout.leaves wildValues ([0x17, 0, 0, 0, 0, 0, 0, 0, 1, 2, 3, 4, 5, 6, 7, 8] ++ zeros 48) = false := by
  decide

/-! non-vacuity: a 3-field layout with a field on the last two bytes -/
def exampleLayout : Layout :=
  [.leaf "MsgType" (.msgType (some "0x50")), .leaf "A" (.at 8 .u32 none), .leaf "B" (.at 62 .u16 none)]

example : wf exampleLayout.leaves = true := by decide
example : (image exampleLayout.leaves [.u8 0, .u32 0x12345678, .u16 0xabcd]).isSome = true := by decide
example : backAll exampleLayout.leaves [.u8 0, .u32 0x12345678, .u16 0xabcd]
    = some [.u8 0x50, .u32 0x12345678, .u16 0xabcd] := by decide
example : Proofs.Codec.hdrShape exampleLayout.leaves = true := by decide
example : marshal Gen.codecFacts C12.genTables exampleLayout [.u8 0, .u32 0x12345678, .u16 0xabcd]
    = .ok ([0x17, 0x50, 0, 0, 0, 0, 0, 0, 0x78, 0x56, 0x34, 0x12] ++ zeros 50 ++ [0xcd, 0xab]) := by decide

/-- the codec keeps nothing between calls but its two tag patterns and its table of kinds, all initialised when the package is loaded - not by whichever entry point happens to run first: the package-level variables of the four packages (regenerated) are these ten - the
    codec's patterns and kind table, the two card-format patterns, the bind-port mutex, `NOTIMEOUT` and three error
    values - every one of them initialised when its package is loaded. A `sync.Once`, a lazily filled map or a cache
    would have to appear here. -/
theorem C18_package_state : Gen.Source.packageVars = ["encoding/UTO311-L0x/UT0311-L0x.go:var re", "encoding/UTO311-L0x/UT0311-L0x.go:var tBool,tByte,tUint16,…",
    "encoding/UTO311-L0x/UT0311-L0x.go:var vre", "types/card-format.go:var w26", "types/card-format.go:var wAny",
    "uhppote/UT0311.go:var NOTIMEOUT", "uhppote/UT0311.go:var guard", "uhppote/errors.go:var ErrIncorrectController",
    "uhppote/errors.go:var ErrInvalidCard", "uhppote/errors.go:var ErrInvalidListenerAddress"] :=
  C12.C12_package_state

end Uhppote.Props.C18
