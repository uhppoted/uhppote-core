import Uhppote.Model.Events
import Uhppote.Gen.Messages
import Uhppote.Props.C04
import Uhppote.Gen.Driver
import Uhppote.Proofs.Buffers
import Uhppote.Props.C02
import Uhppote.Gen.Discover
/-! # C11 — discovery returns exactly the controllers that answered, despite network noise (partial)

`Model.Events.discover` is `broadcast` + `GetDevices` as a function of the datagrams the driver
collected before the timeout. Partial: "received before the timeout" is wall-clock (C09). -/
namespace Uhppote.Props.C11
open Uhppote.Model Uhppote.Model.Api Uhppote.Model.Events

variable (F : CodecFacts) (T : BCD.Tables) (B : HHmmBounds) (cfg : Cfg) (R : Layout)

/-- one entry per kept reply, in arrival order, duplicates included: discovery is a `filterMap` -/
theorem C11_filter_map (ds : List Bytes) :
    discover F T B cfg R ds = ds.filterMap (entryOf F T B cfg R) := rfl

/-- arrival order is preserved and nothing is merged: concatenation of arrivals = concatenation of results -/
theorem C11_append (xs ys : List Bytes) :
    discover F T B cfg R (xs ++ ys) = discover F T B cfg R xs ++ discover F T B cfg R ys := by
  simp [discover, List.filterMap_append]

/-- which datagrams give an entry, and which: 64 bytes that decode as a get-device reply, the entry built from
    the decoded fields -/
theorem entryOf_eq_some (d : Bytes) (e : Entry) :
    entryOf F T B cfg R d = some e ↔ d.length = 64 ∧ ∃ r, unmarshal F T B R d = .ok r ∧ entryCore cfg r = e := by
  unfold entryOf entryWith
  split
  · simp [*]
  · split <;> simp_all

/-- a malformed datagram (wrong length, or undecodable as a get-device reply: wrong protocol id,
    wrong function code, non-BCD date) anywhere in the sequence neither fails the call nor hides
    the valid replies around it -/
theorem C11_malformed_ignored (xs ys : List Bytes) (bad : Bytes) (h : entryOf F T B cfg R bad = none) :
    discover F T B cfg R (xs ++ bad :: ys) = discover F T B cfg R (xs ++ ys) := by
  simp [discover, List.filterMap_append, h]

theorem C11_wrong_length_ignored (bad : Bytes) (h : bad.length ≠ 64) : entryOf F T B cfg R bad = none := by
  simp [entryOf, entryWith, h]

theorem C11_undecodable_ignored (bad : Bytes) (h : ∀ r, unmarshal F T B R bad ≠ .ok r) : entryOf F T B cfg R bad = none :=
  Option.eq_none_iff_forall_ne_some.2 fun e he =>
    let ⟨_, r, hr, _⟩ := (entryOf_eq_some F T B cfg R bad e).1 he
    h r hr

/-- every decodable 64-byte reply yields exactly one entry, carrying the decoded fields -/
theorem C11_valid_kept (d : Bytes) (r : List Val) (hl : d.length = 64) (hr : unmarshal F T B R d = .ok r) :
    ∃ e, entryOf F T B cfg R d = some e ∧ e.fields = r.drop 1 := by
  simp [entryOf, entryWith, entryCore, hl, hr]

/-- the address is the decoded IP completed with the broadcast port, 60000 when none is configured -/
theorem C11_port (d : Bytes) (e : Entry) (h : entryOf F T B cfg R d = some e) :
    e.address = "invalid" ∨ ∃ ip : String, e.address = ip ++ ":" ++ toString (if cfg.broadcastValid then cfg.broadcastPort else 60000) := by
  obtain ⟨_, r, _, rfl⟩ := (entryOf_eq_some F T B cfg R d e).1 h
  simp only [entryCore, addrOf]
  split
  · rename_i a b c d _
    exact Or.inr ⟨s!"{a}.{b}.{c}.{d}", by simp [toString, String.append_assoc]⟩
  · exact Or.inl rfl

-- `hl` is not used: `h` already says that the datagram is 64 bytes long
set_option linter.unusedVariables false in
/-- the name is the one the client was configured with for the controller that answered ("-" stands for
    none / empty), a function of the configuration and of the serial number in the reply alone -/
theorem C11_name (d : Bytes) (e : Entry) (r : List Val) (n : Nat) (hl : d.length = 64)
    (hr : unmarshal F T B R d = .ok r) (hs : r.getD 1 .none_ = .u32 n) (h : entryOf F T B cfg R d = some e) :
    e.name = (match cfg.controllers.find? (·.serial == n) with
      | some c => if c.name = "" then "-" else c.name
      | none => "-") := by
  obtain ⟨_, r', hr', rfl⟩ := (entryOf_eq_some F T B cfg R d e).1 h
  cases hr.symm.trans hr'
  simp only [entryCore, nameOf, hs]
  rfl

/-- **the entry GetDevices builds, regenerated**: the function translated statement by statement from
    uhppote/get_device.go (`Gen.Discover`: the port default and its override by the configured broadcast address, the
    name looked up by the reply's serial number, the address from the reply's IP field, each field of the entry from
    the reply field of the same name) is the hand-written `entryCore` these theorems are about, for every reply of
    the shape the decoder returns (the eight fields of a get-device reply) -/
theorem C11_entry_regenerated (r : List Val) (h : r.length = 8) : Gen.Discover.entry cfg r = entryCore cfg r := by
  obtain ⟨a0, a1, a2, a3, a4, a5, a6, a7, rfl⟩ : ∃ a0 a1 a2 a3 a4 a5 a6 a7, r = [a0, a1, a2, a3, a4, a5, a6, a7] := by
    rcases r with _ | ⟨a0, _ | ⟨a1, _ | ⟨a2, _ | ⟨a3, _ | ⟨a4, _ | ⟨a5, _ | ⟨a6, _ | ⟨a7, _ | ⟨a8, r⟩⟩⟩⟩⟩⟩⟩⟩⟩ <;> simp at h
    exact ⟨a0, a1, a2, a3, a4, a5, a6, a7, rfl⟩
  rfl

theorem C11_port_regenerated : Gen.Discover.port cfg = (if cfg.broadcastValid then cfg.broadcastPort else 60000) := rfl

/-- the number of entries never exceeds the number of datagrams received (nothing is invented) -/
theorem C11_no_more_than_received (ds : List Bytes) : (discover F T B cfg R ds).length ≤ ds.length := by
  simp [discover]; exact List.length_filterMap_le _ _

/-- decoding a collected datagram cannot panic (shipped reply layout, C04) -/
theorem C11_no_panic (L : Layout) (h : Gen.Messages.all.lookup "GetDeviceResponse" = some L) (d : Bytes) :
    unmarshal Gen.codecFacts C12.genTables C18.wireBounds L d ≠ .panic :=
  C04.C04_unmarshal_total _ L h d

/-- T5 obligation: the receive buffer of `Broadcast` is larger than a message, so an over-long datagram is seen as over-long and hence ignored, never a phantom entry
    (`C11_wrong_length_ignored` applied to what the buffer holds, `Proofs.Buffers.length_visible`) -/
theorem C11_receive_buffer : (Gen.Driver.bufSizes.lookup "Broadcast").map (fun n => decide (64 < n)) = some true := by decide

theorem C11_overlong_seen (n : Nat) (h : 64 < n) (d : Bytes) (hd : d.length ≠ 64) : (received n d).length ≠ 64 :=
  Proofs.Buffers.overlong_seen n h d hd

/-- **each entry is the protocol decoding of its reply**: a discovery entry carries the fields (all but the function
    code) of a reply struct that lies in the protocol's decoding relation for that datagram -/
theorem C11_entry_is_protocol_decoding (L : Layout) (h : Gen.Messages.all.lookup "GetDeviceResponse" = some L)
    (cfg : Cfg) (d : Bytes) (e : Entry)
    (he : entryOf Gen.codecFacts C12.genTables C18.wireBounds cfg L d = some e) :
    ∃ r, e.fields = r.drop 1 ∧ Spec.Codec.acceptsUnmarshal L.leaves d (.ok r) = true := by
  obtain ⟨_, r, hr, rfl⟩ := (entryOf_eq_some _ _ _ cfg L d e).1 he
  have hd := C02.C02_decode_relation "GetDeviceResponse" L h d
  rw [hr] at hd
  exact ⟨r, rfl, hd⟩

end Uhppote.Props.C11
