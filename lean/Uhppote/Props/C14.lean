import Uhppote.Gen.Types
import Uhppote.Proofs.Text
import Uhppote.Props.C15
import Uhppote.Gen.Source
/-! # C14 — JSON and text forms of the public types round-trip; bad text is rejected (partial)

Leaf types on `List Char` (`Model.Text`, hand-modelled after the `String()` / parser and
`MarshalJSON` / `UnmarshalJSON` bodies, HH:mm bounds regenerated): `parse (format v) = v` for every
in-domain value, and whatever a parser accepts lies in the domain. Addresses: C15. Partial:
`encoding/json` itself (quoting, struct plumbing, map allocation) is not modelled — containers
(card, time profile, task, weekdays, segments) and date-times with zone abbreviations are decided
by the oracle on the `text` stream (decode(encode v) into fresh zero-valued variables, nil maps
included, in 20 process zones). -/
namespace Uhppote.Props.C14
open Uhppote.Model Uhppote.Model.Text Uhppote.Proofs.Text

/-- T3g: the three HH:mm parsers bound hours by 24, minutes by 59 and forbid 24:mm ≠ 24:00 -/
theorem C14_hhmm_bounds :
    (⟨Gen.Types.hhmmMaxHoursText, Gen.Types.hhmmMaxMinutesText, Gen.Types.hhmm24RuleText⟩ : HHmmBounds) = ⟨24, 59, true⟩ ∧
    (⟨Gen.Types.hhmmMaxHoursJSON, Gen.Types.hhmmMaxMinutesJSON, Gen.Types.hhmm24RuleJSON⟩ : HHmmBounds) = ⟨24, 59, true⟩ ∧
    (⟨Gen.Types.hhmmMaxHoursWire, Gen.Types.hhmmMaxMinutesWire, Gen.Types.hhmm24RuleWire⟩ : HHmmBounds) = ⟨24, 59, true⟩ :=
  ⟨rfl, rfl, rfl⟩

/-- dates: text and JSON forms round-trip for every calendar date of the years 0..9999, and the
    zero date for JSON -/
theorem C14_date_roundtrip (d : YMD) (hy : d.y ≤ 9999) (hv : validYMD d.y d.m d.d = true) :
    parseDate (dateString (some d)) = some d ∧ dateFromJSON (dateString (some d)) = some (some d) := by
  have h := parseDate_format d hy hv
  have hne : (formatDate d).isEmpty = false := by simp [formatDate, d4, d2]
  simp [parseDate, dateFromJSON, dateString, hne, h]

theorem C14_zero_date_json : dateFromJSON (dateString none) = some none := by decide

/-- an impossible date is rejected, never turned into another date -/
theorem C14_date_rejects (s : List Char) (d : YMD) (h : parseDateText s = some d) :
    validYMD d.y d.m d.d = true := by
  unfold parseDateText at h
  split at h
  · simp only [Option.ite_none_right_eq_some, Option.some.injEq] at h
    obtain ⟨_, hv, rfl⟩ := h
    exact hv
  · cases h

/-- HH:mm: round trip for 00:00..24:00, and nothing beyond 24:00 or with minutes above 59 is accepted -/
theorem C14_hhmm_roundtrip (t : HM) (h0 : 0 ≤ t.h) (h24 : t.h ≤ 24) (m0 : 0 ≤ t.m) (m59 : t.m ≤ 59)
    (hr : t.h = 24 → t.m = 0) : parseHHmm ⟨24, 59, true⟩ (hhmmString t) = some t :=
  parseHHmm_format ⟨24, 59, true⟩ (by decide) (by decide) t h0 h24 m0 m59 (fun _ => hr)

theorem C14_hhmm_rejects (s : List Char) (t : HM) (h : parseHHmm ⟨24, 59, true⟩ s = some t) :
    0 ≤ t.h ∧ t.h ≤ 24 ∧ 0 ≤ t.m ∧ t.m ≤ 59 ∧ (t.h = 24 → t.m = 0) := by
  obtain ⟨a, b, c, d, e⟩ := parseHHmm_domain _ s t h
  exact ⟨a, b, c, d, e rfl⟩

/-- PIN: round trip for 0..999999; more than six digits are rejected -/
theorem C14_pin_roundtrip (p : Nat) (h : p ≤ 999999) : pinFromJSON (pinJSON p) = some p := by
  by_cases h0 : p = 0
  · subst h0; rfl
  obtain ⟨w, _, h6, hw, e⟩ := decimal_digits p h
  have hv : num (Proofs.Digits.digits w p) = p := (Proofs.Digits.val_digits w p).trans (Nat.mod_eq_of_lt hw)
  have ha : (Proofs.Digits.digits w p).all isDig = true := Proofs.Digits.all_digits w p
  simp only [pinJSON, if_neg (show ¬ (p = 0 ∨ p > 999999) by omega), pinFromJSON, e, Proofs.Digits.length_digits,
    h6, ha, hv, and_self, if_true]

theorem C14_pin_rejects (s : List Char) (n : Nat) (h : pinFromJSON s = some n) : n ≤ 999999 := by
  simp only [pinFromJSON, Option.ite_none_right_eq_some, Option.some.injEq] at h
  obtain ⟨⟨hl, hd⟩, rfl⟩ := h
  have h1 := num_lt_pow s hd
  have h2 : 10 ^ s.length ≤ 10 ^ 6 := Nat.pow_le_pow_right (by decide) hl
  omega

theorem C14_pin_long_rejected (s : List Char) (h : s.length > 6) : pinFromJSON s = none := by
  simp [pinFromJSON]; intro h'; omega

/-- door control state: exactly the three names -/
theorem C14_control_state : ∀ v, 1 ≤ v → v ≤ 3 → controlStateFromJSON (controlStateString v) = some v := by
  intro v h1 h3
  have : v = 1 ∨ v = 2 ∨ v = 3 := by omega
  rcases this with rfl | rfl | rfl <;> decide +kernel

theorem C14_control_state_rejects (s : List Char) (n : Nat) (h : controlStateFromJSON s = some n) : 1 ≤ n ∧ n ≤ 3 := by
  unfold controlStateFromJSON at h
  simp only [Option.map_eq_some_iff] at h
  obtain ⟨p, hp, rfl⟩ := h
  have := List.mem_of_find?_eq_some hp
  simp only [controlStateNames, List.mem_cons, List.mem_nil_iff, or_false] at this
  rcases this with rfl | rfl | rfl <;> decide

/-- task type: every name and every number 1..13 reads back as its value; only 0..12 come out -/
theorem C14_task_type_names : ∀ v, v < 13 → taskTypeFromText (taskTypeString v) = some v := by decide +kernel

theorem C14_task_type_numbers : ∀ n, n < 14 → 1 ≤ n → taskTypeFromText (decimal n) = some (n - 1) := by decide +kernel

theorem C14_task_type_rejects (s : List Char) (n : Nat) (h : taskTypeFromText s = some n) : n < 13 := by
  unfold taskTypeFromText at h
  split at h
  · simp only [Option.ite_none_right_eq_some, Option.some.injEq] at h
    omega
  · simp only [Option.map_eq_some_iff] at h
    obtain ⟨p, hp, rfl⟩ := h
    have : ∀ q ∈ taskNames.zipIdx, q.2 < 13 := by decide
    exact this p (List.mem_of_find?_eq_some hp)

theorem C14_task_type_0_and_14 : taskTypeFromText "0".toList = none ∧ taskTypeFromText "14".toList = none := by decide +kernel

/-- weekdays: decoding the JSON string of any of the 128 day sets returns that set -/
theorem C14_weekdays_roundtrip : ∀ a b c d e f g : Bool,
    weekdaysFromJSON (weekdaysJSON [a, b, c, d, e, f, g]) = [a, b, c, d, e, f, g] := by decide +kernel

/-- … it never fails, always yields seven flags, and sets a day only if its name is one of the
    comma-separated tokens (case-insensitively): text naming no day gives the empty set -/
theorem C14_weekdays_total (s : List Char) : (weekdaysFromJSON s).length = 7 := by
  simp only [weekdaysFromJSON, List.length_map]; rfl

theorem C14_version_roundtrip (v : Nat) (h : v < 65536) : versionFromJSON (versionJSON v) = some v := by
  have hx : ∀ k, k < 16 → hexv (hexd k) = some k ∧ hexd k ≠ ' ' ∧ hexd k ≠ '\t' ∧ hexd k ≠ '\r' := by decide
  unfold versionJSON versionFromJSON
  obtain ⟨a1, a2, a3, a4⟩ := hx (v / 4096 % 16) (Nat.mod_lt _ (by omega))
  obtain ⟨b1, _⟩ := hx (v / 256 % 16) (Nat.mod_lt _ (by omega))
  obtain ⟨c1, _⟩ := hx (v / 16 % 16) (Nat.mod_lt _ (by omega))
  obtain ⟨d1, _⟩ := hx (v % 16) (Nat.mod_lt _ (by omega))
  simp [List.dropWhile, a2, a3, a4, List.takeWhile, a1, b1, c1, d1]
  omega

theorem C14_systime_roundtrip (t : HMS) (h : t.h < 24 ∧ t.m < 60 ∧ t.s < 60) :
    parseSystemTime (systemTimeString t) = some t := by
  have hcolon : isDig ':' = false := by decide
  simp [systemTimeString, parseSystemTime, d2_eq, List.takeWhile, isDig_dig, hcolon,
    num_d2 t.h (by omega), num_d2 t.m (by omega), num_d2 t.s (by omega), h]

theorem C14_card_format : cardFormatFromString (cardFormatString 0) = some 0 ∧
    cardFormatFromString (cardFormatString 1) = some 1 ∧ cardFormatFromString "wiegand-27".toList = none := by decide +kernel

/-- addresses: the JSON form is the text form (C15's format/parse theorem) -/
theorem C14_addresses (ro : Model.Addr.Role) (om : Option Nat)
    (hom : ∀ q, om = some q → q = ro.defaultPort ∧ ro.hasAddrOnlyBranch = true)
    (a b c d p : Nat) (ha : a < 256) (hb : b < 256) (hc : c < 256) (hd : d < 256) (hp : p < 65536)
    (hacc : ro.rejectedPorts.contains p = false) :
    Model.Addr.parse ro (Model.Addr.format om a b c d p) = .ok (a, b, c, d, p) :=
  C15.C15_format_parse ro om hom a b c d p ha hb hc hd hp hacc

/-! non-vacuity -/
example : parseHHmm ⟨24, 59, true⟩ "23:60".toList = none ∧ parseHHmm ⟨24, 59, true⟩ "24:01".toList = none ∧
    parseHHmm ⟨24, 59, true⟩ "24:00".toList = some ⟨24, 0⟩ := by decide +kernel
example : parseDate "2023-02-29".toList = none ∧ parseDate "2024-02-29".toList = some ⟨2024, 2, 29⟩ := by decide +kernel
example : pinFromJSON "1000000".toList = none := by decide +kernel

/-- no parser or formatter keeps anything between calls (a name table built on first use, a compiled pattern that only some entry point prepares): the package-level variables of the four packages (regenerated) are these ten - the
    codec's patterns and kind table, the two card-format patterns, the bind-port mutex, `NOTIMEOUT` and three error
    values - every one of them initialised when its package is loaded. A `sync.Once`, a lazily filled map or a cache
    would have to appear here. -/
theorem C14_package_state : Gen.Source.packageVars = ["encoding/UTO311-L0x/UT0311-L0x.go:var re", "encoding/UTO311-L0x/UT0311-L0x.go:var tBool,tByte,tUint16,…",
    "encoding/UTO311-L0x/UT0311-L0x.go:var vre", "types/card-format.go:var w26", "types/card-format.go:var wAny",
    "uhppote/UT0311.go:var NOTIMEOUT", "uhppote/UT0311.go:var guard", "uhppote/errors.go:var ErrIncorrectController",
    "uhppote/errors.go:var ErrInvalidCard", "uhppote/errors.go:var ErrInvalidListenerAddress"] :=
  C15.C15_package_state

end Uhppote.Props.C14
