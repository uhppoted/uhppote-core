import Uhppote.Gen.Messages
import Uhppote.Props.C18
import Uhppote.Proofs.Layouts
import Uhppote.Proofs.CodecFrame
/-! # C05 — encoding and decoding are mutually inverse for every message type

Instantiation of the generic codec theorems (C18) to the layouts **regenerated from
messages/*.go**, plus the two dispatchers. The zone clause (any process time zone, zero date and
date-time) is the subject of C13, whose zone model the civil-field values here plug into. -/
namespace Uhppote.Props.C05
open Uhppote.Model Uhppote.Spec.Codec

/-- T1: every one of the 65 message layouts in the sources is the protocol table's -/
theorem C05_layouts : Gen.Messages.all = Spec.Protocol.all := Proofs.Layouts.layouts

/-- T2: the two function-code tables (32 requests, 31 replies) are the protocol's -/
theorem C05_dispatch_tables : Gen.Messages.requests = Spec.Protocol.requests ∧
    Gen.Messages.responses = Spec.Protocol.responses ∧
    Gen.Messages.requests.length = 32 ∧ Gen.Messages.responses.length = 31 := ⟨rfl, rfl, rfl, rfl⟩

/-- every function code in the tables names a declared message type whose own MsgType tag is
    that code -/
theorem C05_tables_consistent :
    (Gen.Messages.requests ++ Gen.Messages.responses).all (fun (c, n) =>
      match Gen.Messages.all.lookup n with
      | some L => L.leaves.any (fun l => match l with
          | .msgType (some t) => tagValue t == some c
          | _ => false)
      | none => false) = true := by decide +kernel

/-- T2: the dispatchers check length 64 and protocol id 0x17 before the table lookup -/
theorem C05_dispatch_checks :
    Gen.Messages.requestsChecks = ["len(bytes) != 64", "bytes[0] != 0x17", "f == nil", "err != nil"] ∧
    Gen.Messages.responsesChecks = ["len(bytes) != 64", "bytes[0] != 0x17", "f == nil", "err != nil"] := ⟨rfl, rfl⟩

/-- every shipped layout is well-formed -/
theorem C05_all_wf : Gen.Messages.all.all (fun p => wf p.2.leaves) = true := by
  rw [Proofs.Layouts.layouts]; exact Proofs.Layouts.layouts_wf

/-- **encode = image** for every shipped message type and all in-domain values -/
theorem C05_marshal_image (n : String) (L : Layout) (h : Gen.Messages.all.lookup n = some L)
    (vs : List Val) (img : Bytes) (himg : image L.leaves vs = some img) :
    marshal Gen.codecFacts C12.genTables L vs = .ok img :=
  C18.C18_marshal_image L vs img (Proofs.Layouts.wf_of_lookup h) himg

/-- every shipped layout has one of the two header shapes `Unmarshal` accepts back -/
theorem C05_all_headers : Gen.Messages.all.all (fun p => Proofs.Codec.hdrShape p.2.leaves) = true := by
  decide +kernel

/-- **decode ∘ encode = id** for every shipped message type and all in-domain values (hence
    distinct values never share an encoding: `C18_injective`) -/
theorem C05_round_trip (n : String) (L : Layout) (h : Gen.Messages.all.lookup n = some L)
    (vs ws : List Val) (img : Bytes) (himg : image L.leaves vs = some img)
    (hback : backAll L.leaves vs = some ws) :
    marshal Gen.codecFacts C12.genTables L vs = .ok img ∧
    unmarshal Gen.codecFacts C12.genTables C18.wireBounds L img = .ok ws := by
  have hwf := Proofs.Layouts.wf_of_lookup h
  have hs : Proofs.Codec.hdrShape L.leaves = true :=
    List.all_eq_true.1 C05_all_headers (n, L) (Proofs.Layouts.mem_of_lookup _ _ _ h)
  exact C18.C18_round_trip L vs ws img hwf himg hback (C18.C18_header_ok L vs img hwf himg hs)

/-- **frame**: the decoded value does not depend on bytes that belong to no field of the message -/
theorem C05_frame (L : Layout) (b1 b2 : Bytes) (hlen : b1.length = b2.length)
    (h : ∀ i, Proofs.Codec.Reads L.leaves i → b1[i]? = b2[i]?) :
    unmarshal Gen.codecFacts C12.genTables C18.wireBounds L b1 = unmarshal Gen.codecFacts C12.genTables C18.wireBounds L b2 :=
  Proofs.Codec.unmarshal_frame _ _ _ rfl L b1 b2 hlen h

/-- the dispatchers reject a wrong length, a wrong protocol id and an unknown function code, and
    otherwise return the message type of the function code in the header -/
theorem C05_dispatch (table : List (Nat × String)) (layouts : String → Option Layout) (b : Bytes) :
    (b.length ≠ 64 → dispatch Gen.codecFacts C12.genTables C18.wireBounds table layouts b = .err) ∧
    ((b.getD 0 0).toNat ≠ 0x17 → dispatch Gen.codecFacts C12.genTables C18.wireBounds table layouts b = .err) ∧
    (table.lookup (b.getD 1 0).toNat = none → dispatch Gen.codecFacts C12.genTables C18.wireBounds table layouts b = .err) ∧
    (∀ n vs, dispatch Gen.codecFacts C12.genTables C18.wireBounds table layouts b = .ok (n, vs) →
      b.length = 64 ∧ (b.getD 0 0).toNat = 0x17 ∧ table.lookup (b.getD 1 0).toNat = some n ∧
      ∃ L, layouts n = some L ∧ unmarshal Gen.codecFacts C12.genTables C18.wireBounds L b = .ok vs) := by
  refine ⟨fun h => ?_, fun h => ?_, fun h => ?_, fun n vs h => ?_⟩
  · simp [dispatch, h]
  · unfold dispatch; split
    · rfl
    · simp
  · unfold dispatch; split
    · rfl
    · split
      · rfl
      · simp only [h]
  · unfold dispatch at h
    split at h
    · cases h
    · rename_i h1
      split at h
      · cases h
      · rename_i h2
        split at h
        · cases h
        · rename_i n' hn
          split at h
          · cases h
          · rename_i L hL
            split at h
            · rename_i vs' hu
              cases h
              exact ⟨by simpa using h1, by simpa using h2, hn, L, hL, hu⟩
            · cases h
            · cases h

/-! non-vacuity: the GetCardByID reply golden vector of messages/get_card_test.go decodes -/
example : (Gen.Messages.all.lookup "PutCardRequest").isSome = true := by decide +kernel

end Uhppote.Props.C05
