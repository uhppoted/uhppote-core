import Uhppote.Model.Heap
import Uhppote.Gen.Alias
import Uhppote.Gen.Facts
import Uhppote.Gen.Source
/-! # C17 — clients are insulated from later input changes, results from network buffers (partial)

Heap model with identity (`Model.Heap`) + the syntactic facts the translator reads off the
sources (`Gen.Alias`, `Gen.codecFacts`). Partial: Go memory identity is represented only through
those facts; the dynamic half is the `insulate` correspondence stream (construct, mutate
caller-side data, call, mutate returned data, scribble over delivered buffers). -/
namespace Uhppote.Props.C17
open Uhppote.Model.Heap

/-- T5: the facts the theorems below are instantiated with -/
theorem C17_facts :
    Gen.Alias.writesThroughParameters = [] ∧                       -- no operation writes through an argument
    Gen.Alias.constructorMap = "map[uint32]Device{}" ∧ Gen.Alias.constructorStores = "device.Clone()" ∧
    Gen.Alias.deviceListMap = "map[uint32]Device{}" ∧
    Gen.Alias.routingReads = ["Address", "Protocol"] ∧
    Gen.Alias.deviceFields.lookup "Address" = some "types.ControllerAddr" ∧     -- a value type
    Gen.Alias.deviceFields.lookup "Protocol" = some "string" ∧                  -- immutable
    Gen.Alias.deviceCloneDoors = "make([]string, len(d.Doors))" ∧ Gen.Alias.deviceCloneCopiesDoors = true ∧
    Gen.Alias.cardCloneDoors = "new map[uint8]uint8 literal with 4 entries" ∧
    Gen.Alias.macAddressDecoderCopies = true ∧
    Gen.codecFacts.macReaderCopies = true ∧ Gen.codecFacts.ipReaderCopies = true :=
  ⟨rfl, rfl, rfl, rfl, rfl, rfl, rfl, rfl, rfl, rfl, rfl, rfl, rfl⟩

theorem read_write_ne (h : Heap) (l l' : Loc) (v : List Nat) (hne : l ≠ l') : (h.write l v).read l' = h.read l' := by
  simp [Heap.read, Heap.write, List.getD, List.getElem?_set_ne hne]

theorem size_write (h : Heap) (l : Loc) (v : List Nat) : (h.write l v).size = h.size := by
  simp [Heap.size, Heap.write]

theorem size_writes (h : Heap) (ws : List (Loc × List Nat)) : (writes h ws).size = h.size := by
  induction ws generalizing h with
  | nil => rfl
  | cons w ws ih => exact (ih _).trans (size_write _ _ _)

/-- writes to other locations do not change what a location holds -/
theorem read_writes (h : Heap) (ws : List (Loc × List Nat)) (l : Loc) (hl : ∀ w ∈ ws, w.1 ≠ l) :
    (writes h ws).read l = h.read l := by
  induction ws generalizing h with
  | nil => rfl
  | cons w ws ih =>
    simp only [writes, List.foldl_cons]
    have := ih (h.write w.1 w.2) (fun x hx => hl x (by simp [hx]))
    simp only [writes] at this
    rw [this, read_write_ne _ _ _ _ (hl w (by simp))]

theorem construct_fresh : ∀ (h : Heap) (ds : List Device),
    (∀ c ∈ (construct h ds).2, h.size ≤ c.doors) ∧ h.size ≤ (construct h ds).1.size ∧
    (construct h ds).2.map (fun c => (c.serial, c.address, c.protocol)) = ds.map (fun d => (d.serial, d.address, d.protocol))
  | h, [] => by simp [construct]
  | h, d :: ds => by
    have ih := construct_fresh (cloneDevice h d).1 ds
    have hs : (cloneDevice h d).1.size = h.size + 1 := by simp [cloneDevice, Heap.alloc, Heap.size]
    simp only [construct]
    refine ⟨?_, ?_, ?_⟩
    · intro c hc
      rcases List.mem_cons.1 hc with rfl | hc'
      · simp [cloneDevice, Heap.alloc, Heap.size]
      · have := ih.1 c hc'; omega
    · have := ih.2.1; omega
    · simp only [List.map_cons, ih.2.2]; rfl

/-- **(a) the client keeps its own copy**: whatever the caller writes afterwards to storage it
    owns (its device list, the door-name slices), and whatever is written to the map and the
    slices returned by `DeviceList`, where requests go does not change; and the client's own
    door-name storage is untouched by writes to caller-owned storage -/
theorem C17_storage_insulated (h : Heap) (ds : List Device) (ws : List (Loc × List Nat))
    (hw : ∀ w ∈ ws, w.1 < h.size) :
    ∀ c ∈ (construct h ds).2, (writes (construct h ds).1 ws).read c.doors = (construct h ds).1.read c.doors := by
  intro c hc
  apply read_writes
  intro w hwm
  have h1 : h.size ≤ c.doors := (construct_fresh h ds).1 c hc
  have h2 : w.1 < h.size := hw w hwm
  exact Nat.ne_of_lt (Nat.lt_of_lt_of_le h2 h1)

/-- routing reads a client through the by-value fields only -/
theorem routeOf_map (l : List Device) (serial : Nat) :
    routeOf l serial =
      ((l.map fun d => (d.serial, d.address, d.protocol)).find? (·.1 == serial)).map (·.2) := by
  simp [routeOf, List.find?_map, Option.map_map, Function.comp_def]

/-- … and where requests go is a function of the by-value fields the client was built with and of
    nothing else: no later write to any storage (the caller's list and slices, the map and slices
    returned by `DeviceList`) can change it -/
theorem C17_routes_as_configured (h : Heap) (ds : List Device) (serial : Nat) :
    routeOf (construct h ds).2 serial = routeOf ds serial := by
  rw [routeOf_map, routeOf_map, (construct_fresh h ds).2.2]

/-- **(d) cloning** a card (or a device) yields equal contents in storage nobody else holds -/
theorem C17_clone_independent (h : Heap) (doors : Loc) (hd : doors < h.size) :
    (cloneMap h doors).1.read (cloneMap h doors).2 = h.read doors ∧ (cloneMap h doors).2 ≠ doors ∧
    (∀ v, ((cloneMap h doors).1.write (cloneMap h doors).2 v).read doors = (cloneMap h doors).1.read doors) ∧
    (∀ v, ((cloneMap h doors).1.write doors v).read (cloneMap h doors).2 = (cloneMap h doors).1.read (cloneMap h doors).2) := by
  have hne : h.cells.length ≠ doors := Nat.ne_of_gt hd
  have e2 : (cloneMap h doors).2 = h.cells.length := rfl
  rw [e2]
  refine ⟨?_, hne, fun v => read_write_ne _ _ _ _ hne, fun v => read_write_ne _ _ _ _ (Ne.symm hne)⟩
  simp [cloneMap, Heap.alloc, Heap.read, List.getD]

/-- **(c) results do not depend on later reuse of the receive buffer** when the reader copies
    (the regenerated facts say every slice reader does) -/
theorem C17_result_insulated (h : Heap) (buf : Loc) (hb : buf < h.size) (junk : List Nat) :
    (decodeSlice true h buf).2.value ((decodeSlice true h buf).1.write buf junk) =
    (decodeSlice true h buf).2.value (decodeSlice true h buf).1 := by
  have hne : buf ≠ h.cells.length := Nat.ne_of_lt hb
  show ((decodeSlice true h buf).1.write buf junk).read h.cells.length = (decodeSlice true h buf).1.read h.cells.length
  exact read_write_ne _ _ _ _ hne

/-- … and would depend on it if a reader stored a view (the raw MAC reader before its repair) -/
theorem C17_view_is_not_insulated :
    (decodeSlice false ⟨[[1, 2, 3, 4, 5, 6]]⟩ 0).2.value ((decodeSlice false ⟨[[1, 2, 3, 4, 5, 6]]⟩ 0).1.write 0 [9, 9, 9, 9, 9, 9]) ≠
    (decodeSlice false ⟨[[1, 2, 3, 4, 5, 6]]⟩ 0).2.value (decodeSlice false ⟨[[1, 2, 3, 4, 5, 6]]⟩ 0).1 := by decide

/-! non-vacuity -/
example : (construct ⟨[[10, 11], [20]]⟩ [⟨405419896, 1, 2, 3, 0⟩, ⟨303986753, 4, 5, 6, 1⟩]).2.map (·.doors) = [2, 3] := by decide

/-- the copy of the configuration taken at construction is never written again: no method of the client stores into
    its receiver (regenerated list: empty) - so where requests go cannot come to depend on anything that happens after
    construction -/
theorem C17_config_never_written : Gen.Source.receiverWrites = [] := rfl

end Uhppote.Props.C17
