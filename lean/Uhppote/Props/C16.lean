import Uhppote.Model.Order
import Uhppote.Spec.Order
import Uhppote.Gen.Order
import Uhppote.Gen.Source
import Uhppote.Props.C13
/-! # C16 — date and time comparisons form a strict total order consistent with the calendar
All statements are for ALL integer field values (so certainly for years 0001..9999, months, days,
hours 0..24, minutes 0..59). -/
namespace Uhppote.Props.C16
open Uhppote.Model.Order Uhppote.Spec.Order

/-- the fields the comparison methods look at, most significant first -/
def t3 (p : YMD) : Int × Int × Int := (p.y, p.m, p.d)
def t2 (p : HM) : Int × Int := (p.h, p.m)

/-! `lex3` and `lex2` are strict total orders: of two tuples exactly one is below the other, or they are equal. -/

theorem lex3_total (a b : Int × Int × Int) :
    (lex3 a b ∧ a ≠ b ∧ ¬ lex3 b a) ∨ (¬ lex3 a b ∧ a = b ∧ ¬ lex3 b a) ∨ (¬ lex3 a b ∧ a ≠ b ∧ lex3 b a) := by
  simp only [lex3, ne_eq, Prod.ext_iff]
  omega

theorem lex3_trans {a b c : Int × Int × Int} (h1 : lex3 a b) (h2 : lex3 b c) : lex3 a c := by
  unfold lex3 at *; omega

theorem lex3_irrefl (a : Int × Int × Int) : ¬ lex3 a a := by
  unfold lex3; omega

theorem lex2_total (a b : Int × Int) :
    (lex2 a b ∧ a ≠ b ∧ ¬ lex2 b a) ∨ (¬ lex2 a b ∧ a = b ∧ ¬ lex2 b a) ∨ (¬ lex2 a b ∧ a ≠ b ∧ lex2 b a) := by
  simp only [lex2, ne_eq, Prod.ext_iff]
  omega

theorem lex2_trans {a b c : Int × Int} (h1 : lex2 a b) (h2 : lex2 b c) : lex2 a c := by
  unfold lex2 at *; omega

theorem t3_inj (p q : YMD) : t3 p = t3 q ↔ p = q := by
  cases p; cases q; simp [t3]

theorem t2_inj (p q : HM) : t2 p = t2 q ↔ p = q := by
  cases p; cases q; simp [t2]

/-! The three date methods are `lex3`, its converse and equality of the field triples (the nested ifs of
    `Before` / `After` ARE the disjunction `lex3` spells out); everything else follows from the order. -/

theorem C16_date_before_lex (p q : YMD) : dateBefore p q = true ↔ lex3 (t3 p) (t3 q) := by
  simp [dateBefore, lex3, t3]

theorem date_after_lex (p q : YMD) : dateAfter p q = true ↔ lex3 (t3 q) (t3 p) := by
  simp [dateAfter, lex3, t3]
  omega

theorem date_equals_t3 (p q : YMD) : dateEquals p q = true ↔ t3 p = t3 q := by
  simp [dateEquals, t3, and_assoc]

theorem C16_date_after_mirror (p q : YMD) : dateAfter p q = dateBefore q p := by
  rw [Bool.eq_iff_iff, date_after_lex, C16_date_before_lex]

theorem C16_date_equals (p q : YMD) : dateEquals p q = true ↔ p = q := by
  rw [date_equals_t3, t3_inj]

/-- exactly one of before / equal / after -/
theorem C16_date_trichotomy (p q : YMD) :
    (dateBefore p q = true ∧ dateEquals p q = false ∧ dateAfter p q = false) ∨
    (dateBefore p q = false ∧ dateEquals p q = true ∧ dateAfter p q = false) ∨
    (dateBefore p q = false ∧ dateEquals p q = false ∧ dateAfter p q = true) := by
  simp only [← Bool.not_eq_true, C16_date_before_lex, date_after_lex, date_equals_t3]
  exact lex3_total _ _

theorem C16_date_before_trans (p q r : YMD) (h1 : dateBefore p q = true) (h2 : dateBefore q r = true) :
    dateBefore p r = true := by
  rw [C16_date_before_lex] at *
  exact lex3_trans h1 h2

theorem C16_date_before_irrefl (p : YMD) : dateBefore p p = false := by
  rw [← Bool.not_eq_true, C16_date_before_lex]
  exact lex3_irrefl _

theorem C16_hhmm_before_lex (p q : HM) : hhmmBefore p q = true ↔ lex2 (t2 p) (t2 q) := by
  simp [hhmmBefore, lex2, t2]

theorem hhmm_after_lex (p q : HM) : hhmmAfter p q = true ↔ lex2 (t2 q) (t2 p) := by
  simp [hhmmAfter, lex2, t2]
  omega

theorem hhmm_equals_t2 (p q : HM) : hhmmEquals p q = true ↔ t2 p = t2 q := by
  simp [hhmmEquals, t2]

theorem C16_hhmm_after_mirror (p q : HM) : hhmmAfter p q = hhmmBefore q p := by
  rw [Bool.eq_iff_iff, hhmm_after_lex, C16_hhmm_before_lex]

theorem C16_hhmm_equals (p q : HM) : hhmmEquals p q = true ↔ p = q := by
  rw [hhmm_equals_t2, t2_inj]

theorem C16_hhmm_trichotomy (p q : HM) :
    (hhmmBefore p q = true ∧ hhmmEquals p q = false ∧ hhmmAfter p q = false) ∨
    (hhmmBefore p q = false ∧ hhmmEquals p q = true ∧ hhmmAfter p q = false) ∨
    (hhmmBefore p q = false ∧ hhmmEquals p q = false ∧ hhmmAfter p q = true) := by
  simp only [← Bool.not_eq_true, C16_hhmm_before_lex, hhmm_after_lex, hhmm_equals_t2]
  exact lex2_total _ _

theorem C16_hhmm_before_trans (p q r : HM) (h1 : hhmmBefore p q = true) (h2 : hhmmBefore q r = true) :
    hhmmBefore p r = true := by
  rw [C16_hhmm_before_lex] at *
  exact lex2_trans h1 h2

/-- a date-time is before an instant exactly when its whole-second timestamp is the smaller one
    (instants from 1970 on, as the property restricts it) -/
theorem C16_datetime_before (d t : Int) (hd : 0 ≤ d) (ht : 0 ≤ t) :
    dateTimeBefore d t = true ↔ wholeSeconds d < wholeSeconds t := by
  unfold dateTimeBefore wholeSeconds
  rw [Int.tdiv_eq_ediv_of_nonneg hd, Int.tdiv_eq_ediv_of_nonneg ht]
  simp

/-- why the restriction is needed: before 1970 Go's truncating division rounds towards zero -/
example : dateTimeBefore (-1500) (-1000) = false ∧ wholeSeconds (-1500) < wholeSeconds (-1000) := by decide

/-- SetTimeProfile accepts a segment exactly when its end is not before its start -/
theorem C16_segment_guard (s e : HM) : segmentRejected s e = false ↔ ¬ lex2 (t2 e) (t2 s) := by
  rw [← Bool.not_eq_true, ← C16_hhmm_before_lex]
  rfl

/-- the civil fields a stored instant reports in a zone, as the comparison methods read them
    (`Year()`, `Month()`, `Day()`) -/
def fieldsIn (z : Uhppote.Model.Time.Zone) (u : Int) : YMD :=
  let c := Uhppote.Model.Time.civilFromDays (Uhppote.Model.Time.dayOf (Uhppote.Model.Time.civil z u))
  ⟨c.1, c.2.1, c.2.2⟩

/-- **in every process zone**: the verdict on two dates that were *constructed* for the civil days
    `m₁` and `m₂` (by any of the five sites, all of which go through `startOfDay`: `C13_sites`) is the
    verdict on the calendar fields of those days - also when a DST change removes local midnight on
    either day. With `C16_date_before_lex` this is "agrees with comparing (year, month, day)" for
    dates as the library makes them, not only for field triples. (Hypotheses: those of
    `C13_date_keeps_its_day`, for each of the two days.) -/
theorem C16_order_in_every_zone (z : Uhppote.Model.Time.Zone)
    (m₁ D₁ T₁ A₁ B₁ m₂ D₂ T₂ A₂ B₂ : Int)
    (hm₁ : m₁ % 86400 = 0) (h₁ : Uhppote.Proofs.Zone.OneTransition z m₁ (2 * D₁ + 43200) T₁ A₁ B₁)
    (hA₁ : -D₁ ≤ A₁ ∧ A₁ ≤ D₁) (hB₁ : -D₁ ≤ B₁ ∧ B₁ ≤ D₁) (hb₁ : ∀ v, -D₁ ≤ z.off v ∧ z.off v ≤ D₁) (hg₁ : B₁ - A₁ < 43200)
    (hm₂ : m₂ % 86400 = 0) (h₂ : Uhppote.Proofs.Zone.OneTransition z m₂ (2 * D₂ + 43200) T₂ A₂ B₂)
    (hA₂ : -D₂ ≤ A₂ ∧ A₂ ≤ D₂) (hB₂ : -D₂ ≤ B₂ ∧ B₂ ≤ D₂) (hb₂ : ∀ v, -D₂ ≤ z.off v ∧ z.off v ≤ D₂) (hg₂ : B₂ - A₂ < 43200) :
    let p := fieldsIn z (Uhppote.Model.Time.startOfDay z m₁)
    let q := fieldsIn z (Uhppote.Model.Time.startOfDay z m₂)
    let p' : YMD := ⟨(Uhppote.Model.Time.civilFromDays (Uhppote.Model.Time.dayOf m₁)).1, (Uhppote.Model.Time.civilFromDays (Uhppote.Model.Time.dayOf m₁)).2.1, (Uhppote.Model.Time.civilFromDays (Uhppote.Model.Time.dayOf m₁)).2.2⟩
    let q' : YMD := ⟨(Uhppote.Model.Time.civilFromDays (Uhppote.Model.Time.dayOf m₂)).1, (Uhppote.Model.Time.civilFromDays (Uhppote.Model.Time.dayOf m₂)).2.1, (Uhppote.Model.Time.civilFromDays (Uhppote.Model.Time.dayOf m₂)).2.2⟩
    dateBefore p q = dateBefore p' q' ∧ dateEquals p q = dateEquals p' q' ∧ dateAfter p q = dateAfter p' q' := by
  have e₁ := Uhppote.Props.C13.C13_date_keeps_its_day z m₁ D₁ T₁ A₁ B₁ hm₁ h₁ hA₁ hB₁ hb₁ hg₁
  have e₂ := Uhppote.Props.C13.C13_date_keeps_its_day z m₂ D₂ T₂ A₂ B₂ hm₂ h₂ hA₂ hB₂ hb₂ hg₂
  simp only [fieldsIn, e₁, e₂]
  -- both sides of each equation are now the same term
  exact ⟨trivial, trivial, trivial⟩

/-- the comparison functions all theorems above are about are, term for term, the ones translated from
    types/date.go, types/HHmm.go and types/datetime.go on this run (nested ifs with fall-through, the HHmm
    case of the type switch, whole seconds by truncating division) -/
theorem C16_regenerated :
    Gen.Order.dateBefore = dateBefore ∧ Gen.Order.dateAfter = dateAfter ∧ Gen.Order.dateEquals = dateEquals ∧
    Gen.Order.hhmmBefore = hhmmBefore ∧ Gen.Order.hhmmAfter = hhmmAfter ∧ Gen.Order.hhmmEquals = hhmmEquals ∧
    Gen.Order.dateTimeBefore = dateTimeBefore := by
  refine ⟨rfl, rfl, rfl, rfl, rfl, rfl, ?_⟩
  funext a b
  simp [Gen.Order.dateTimeBefore, dateTimeBefore]

/-! non-vacuity -/
example : dateBefore ⟨2024, 12, 31⟩ ⟨2025, 1, 1⟩ = true := by decide
example : dateBefore ⟨2025, 1, 1⟩ ⟨2024, 12, 31⟩ = false := by decide
example : hhmmBefore ⟨8, 30⟩ ⟨24, 0⟩ = true := by decide
example : dateTimeBefore 1999 2000 = true ∧ dateTimeBefore 1000 1999 = false := by decide
example : segmentRejected ⟨8, 30⟩ ⟨8, 29⟩ = true ∧ segmentRejected ⟨8, 30⟩ ⟨8, 30⟩ = false := by decide

/-- no comparison keeps anything between calls: the package-level variables of the four packages (regenerated) are these ten - the
    codec's patterns and kind table, the two card-format patterns, the bind-port mutex, `NOTIMEOUT` and three error
    values - every one of them initialised when its package is loaded. A `sync.Once`, a lazily filled map or a cache
    would have to appear here. -/
theorem C16_package_state : Gen.Source.packageVars = ["encoding/UTO311-L0x/UT0311-L0x.go:var re", "encoding/UTO311-L0x/UT0311-L0x.go:var tBool,tByte,tUint16,…",
    "encoding/UTO311-L0x/UT0311-L0x.go:var vre", "types/card-format.go:var w26", "types/card-format.go:var wAny",
    "uhppote/UT0311.go:var NOTIMEOUT", "uhppote/UT0311.go:var guard", "uhppote/errors.go:var ErrIncorrectController",
    "uhppote/errors.go:var ErrInvalidCard", "uhppote/errors.go:var ErrInvalidListenerAddress"] :=
  C13.C13_package_state

end Uhppote.Props.C16
