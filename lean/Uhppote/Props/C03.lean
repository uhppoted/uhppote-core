import Uhppote.Model.Api
import Uhppote.Gen.Routing
import Uhppote.Gen.Driver
import Uhppote.Proofs.Call
import Uhppote.Proofs.Buffers
import Uhppote.Gen.Source
/-! # C03 — only a well-formed reply from the addressed controller is ever accepted

`Model.Api.driverReply` + the checks of `sendto` (regenerated list `Gen.Routing.sendtoChecks`):
which datagram of an arbitrary arrival sequence decides a call, on each of the three paths. -/
namespace Uhppote.Props.C03
open Uhppote.Model Uhppote.Model.Api

/-- T4 obligation: the checks of sendto, in source order -/
theorem C03_sendto_checks : Gen.Routing.sendtoChecks = [
    "serialNumber == 0", "err != nil", "response, err := f(); err != nil", "response == nil",
    "len(response) != 64",
    "ID := binary.LittleEndian.Uint32(response[4:8]); serialNumber != 0 && ID != serialNumber",
    "v, err := codec.UnmarshalAs(response, reply); err != nil"] := rfl

abbrev passes := Proofs.Buffers.passes

/-- (iv) function code 0x96 (SetAddress): success without consulting any datagram, on all paths -/
theorem C03_no_reply_code (path : Path) (serial : Nat) (req : Bytes) (arrivals : List Bytes)
    (h : codeOf req = 0x96) : driverReply 0x96 path serial req arrivals = none :=
  Proofs.Call.driverReply_noReply h path serial arrivals

/-- (i) broadcast path: the deciding datagram is the FIRST one that is 64 bytes long and carries
    the serial number S -/
theorem C03_broadcast_first_passing (serial : Nat) (req : Bytes) (arrivals : List Bytes)
    (h : codeOf req ≠ 0x96) :
    driverReply 0x96 .broadcastTo serial req arrivals = some (arrivals.find? (passes serial)) :=
  Proofs.Call.driverReply_broadcast h serial arrivals

/-- (ii) skipped datagrams cannot influence the result: removing any non-passing datagram from
    anywhere in the sequence leaves the outcome unchanged -/
theorem C03_broadcast_skips (serial : Nat) (req : Bytes) (xs ys : List Bytes) (d : Bytes)
    (hd : passes serial d = false) :
    driverReply 0x96 .broadcastTo serial req (xs ++ d :: ys) = driverReply 0x96 .broadcastTo serial req (xs ++ ys) := by
  unfold driverReply
  split
  · rfl
  · have : ∀ p : Bytes → Bool, p d = false → (xs ++ d :: ys).find? p = (xs ++ ys).find? p := by
      intro p hp
      simp [List.find?_append, hp]
    simp only
    congr 1
    exact this _ hd

/-- silence, or only non-passing datagrams: the broadcast call fails (times out) -/
theorem C03_broadcast_timeout (serial : Nat) (req : Bytes) (arrivals : List Bytes)
    (h : codeOf req ≠ 0x96) (hall : ∀ d ∈ arrivals, passes serial d = false) :
    driverReply 0x96 .broadcastTo serial req arrivals = some none := by
  rw [C03_broadcast_first_passing _ _ _ h]
  congr 1
  rw [List.find?_eq_none]
  intro d hd; simp [hall d hd]

/-- (iii) directed paths: only the first datagram is read -/
theorem C03_directed_first (path : Path) (hp : path ≠ .broadcastTo) (serial : Nat) (req : Bytes)
    (arrivals : List Bytes) (h : codeOf req ≠ 0x96) :
    driverReply 0x96 path serial req arrivals = some arrivals.head? :=
  Proofs.Call.driverReply_directed h hp serial arrivals

/-- T5 obligation: the receive buffers of the three request methods are larger than a message, so that the
    length check of `sendto` sees an over-long datagram as over-long -/
theorem C03_buffers : (Gen.Driver.bufSizes.filter fun p => p.1 == "BroadcastTo" || p.1 == "SendUDP" || p.1 == "SendTCP").map (·.1)
      = ["BroadcastTo", "SendUDP", "SendTCP"] ∧
    (Gen.Driver.bufSizes.filter fun p => p.1 == "BroadcastTo" || p.1 == "SendUDP" || p.1 == "SendTCP").all (fun p => decide (64 < p.2)) = true := by
  decide

/-- with a buffer of more than 64 bytes the datagram the library looks at is 64 bytes long exactly
    when the datagram on the wire is, it then is that datagram, and it passes the broadcast filter
    exactly when the datagram on the wire does -/
theorem C03_length_visible (n : Nat) (h : 64 < n) (S : Nat) (d : Bytes) :
    ((received n d).length = 64 ↔ d.length = 64) ∧ (d.length = 64 → received n d = d) ∧
    passes S (received n d) = passes S d :=
  Proofs.Buffers.length_visible n h S d

/-- … and the witness that a buffer of exactly 64 bytes would hide the excess: a 65-byte datagram
    whose first 64 bytes pass as S's is then taken for a reply of S -/
theorem C03_buffer64_hides : ∃ d : Bytes, d.length = 65 ∧ passes 0 d = false ∧ passes 0 (received 64 d) = true :=
  ⟨zeros 65, by decide, by decide, by decide⟩

variable (F : CodecFacts) (T : BCD.Tables) (B : HHmmBounds) (layouts : String → Option Layout)

/-- whatever decides, a result other than an error needs a 64-byte datagram with serial S that
    decodes as the operation's own reply type (length, serial, then protocol id / function code /
    fields inside `unmarshal`) — for every operation, configuration and arrival sequence -/
theorem C03_accepts_only_well_formed (cfg : Cfg) (op : Op) (args : List Arg) (arrivals : List Bytes)
    (R : Layout) (hR : op.reply.bind layouts = some R)
    (hcode : ∀ L m, layouts op.request = some L → marshal F T L (op.build args) = .ok m → codeOf m ≠ 0x96)
    (hres : (call F T B layouts 0x96 cfg op args arrivals).1.res ≠ .err) :
    ∃ d ∈ arrivals, d.length = 64 ∧ serialOf d = u32? (arg args 0) ∧
      ∃ r, unmarshal F T B R d = .ok r ∧ (call F T B layouts 0x96 cfg op args arrivals).1.res = op.result args r :=
  Proofs.Call.call_inv F T B layouts 0x96 cfg op args arrivals R hR hcode hres

/-- the serial number a reply is compared with is the parameter of the call and nothing else can be: no method of
    the client or of the driver stores anything into its receiver (regenerated: every assignment, increment / decrement, delete or
    clear whose target is rooted at the receiver, or at a local that names one of its fields), so an overlapping call
    cannot change what this one is waiting for -/
theorem C03_no_client_state : Gen.Source.receiverWrites = [] := rfl

end Uhppote.Props.C03
