import Uhppote.Gen.Types
import Uhppote.Proofs.Zone
import Uhppote.Gen.Source
/-! # C13 — calendar dates and times keep their civil value in every time zone

A zone is a piecewise-constant offset function with its period bounds (what Go's
`Location.lookup` returns); `goDate` is Go's `time.Date` / `time.ParseInLocation` resolution and
`startOfDay` the repository's date constructor (go1.23 `time/time.go`, hand-modelled; the five
construction sites and the helper's body are regenerated facts). The theorems hold for EVERY zone
satisfying the locality hypothesis `OneTransition` (at most one transition within the window
around the date, offsets bounded) — the (zone, day) pairs of the IANA database that violate it
are outside the theorem and covered by the `zones` correspondence stream only. The calendar
itself (civil fields ↔ day number) is the `time` package's and enters only through day numbers:
a date "reports year, month, day" ⇔ the civil day number is the requested one. -/
namespace Uhppote.Props.C13
open Uhppote.Model.Time Uhppote.Proofs.Zone

/-- T5: every one of the five date construction sites goes through `startOfDay`, whose body is
    the modelled one; the DateTime decoder maps the encoding of the zero value to zero -/
theorem C13_sites :
    Gen.Types.dateSites = [("ToDate", "startOfDay"), ("ParseDate", "startOfDay"), ("DateWire", "startOfDay"),
      ("DateJSON", "startOfDay"), ("SystemDateWire", "startOfDay")] ∧
    Gen.Types.startOfDayBody = "{ t := time.Date(year, month, day, 0, 0, 0, 0, time.Local) noon := time.Date(year, month, day, 12, 0, 0, 0, time.Local) if t.Day() != noon.Day() { if start, _ := noon.ZoneBounds(); start.After(t) { return start } } return t }" ∧
    Gen.Types.dateTimeZeroPatterns.contains "[]byte{0x00,0x01,0x01,0x01,0,0,0}" = true :=
  ⟨rfl, rfl, by decide⟩

-- `hbound` is not used: the locality hypothesis already bounds the offsets the proof looks at
set_option linter.unusedVariables false in
/-- **dates**: a date constructed from (or read as) a civil day reports exactly that day, in every
    zone — including when a DST change removes local midnight (the gap is shorter than twelve
    hours, so the day is not skipped entirely) -/
theorem C13_date_keeps_its_day (z : Zone) (midnight D T A B : Int) (hm : midnight % 86400 = 0)
    (h : OneTransition z midnight (2 * D + 43200) T A B)
    (hA : -D ≤ A ∧ A ≤ D) (hB : -D ≤ B ∧ B ≤ D) (hbound : ∀ v, -D ≤ z.off v ∧ z.off v ≤ D)
    (hgap : B - A < 43200) :
    dayOf (civil z (startOfDay z midnight)) = dayOf midnight :=
  startOfDay_day z midnight D T A B hm h hA hB hgap

/-- … and therefore encodes back to exactly those digits: the encoder formats the civil fields of
    the stored instant, i.e. of the same day number -/
theorem C13_date_encodes_its_day (z : Zone) (midnight D T A B : Int) (hm : midnight % 86400 = 0)
    (h : OneTransition z midnight (2 * D + 43200) T A B)
    (hA : -D ≤ A ∧ A ≤ D) (hB : -D ≤ B ∧ B ≤ D) (hbound : ∀ v, -D ≤ z.off v ∧ z.off v ≤ D)
    (hgap : B - A < 43200) :
    civilFromDays (dayOf (civil z (startOfDay z midnight))) = civilFromDays (dayOf midnight) := by
  rw [C13_date_keeps_its_day z midnight D T A B hm h hA hB hbound hgap]

/-- **date-times**: a date-time read from a controller reports exactly the transmitted civil
    time whenever that time exists in the process zone (also used by the status recombination,
    whose date part comes from the theorem above) -/
theorem C13_datetime_exact (z : Zone) (c D T A B : Int) (h : OneTransition z c (2 * D) T A B)
    (hA : -D ≤ A ∧ A ≤ D) (hB : -D ≤ B ∧ B ≤ D) (hbound : ∀ v, -D ≤ z.off v ∧ z.off v ≤ D)
    (hex : ∃ u, civil z u = c) : civil z (goDate z c) = c :=
  goDate_exact z c D T A B h hA hB hbound hex

/-- a civil time exists unless it falls in the gap of a spring-forward transition -/
theorem C13_exists_outside_gap (z : Zone) (c D T A B : Int) (h : OneTransition z c (2 * D) T A B)
    (hA : -D ≤ A ∧ A ≤ D) (hB : -D ≤ B ∧ B ≤ D) (hg : ¬ InGap c T A B) : ∃ u, civil z u = c :=
  ⟨goDate z c, civil_goDate h hA hB hg⟩

/-- why the repair was needed: plain `time.Date(y, m, d, 0, …, time.Local)` lands on the PREVIOUS
    day when a transition west of UTC removes local midnight (defect D11, repaired) -/
theorem C13_naive_constructor_was_wrong (z : Zone) (m D T A B : Int) (hm : m % 86400 = 0)
    (h : OneTransition z m (2 * D) T A B) (hA : -D ≤ A ∧ A ≤ D) (hB : -D ≤ B ∧ B ≤ D)
    (hg : InGap m T A B) (hw : m < T) (hgap : B - A ≤ 86400) :
    dayOf (civil z (naiveDate z m)) = dayOf m - 1 := by
  unfold naiveDate
  rw [(goDate_gap_west z m D T A B h hA hB hg hw).2]
  unfold InGap at hg
  unfold dayOf; omega

/-! non-vacuity: America/Santiago, 2024-09-08 (clocks go from 24:00 to 01:00; −4h → −3h at
    2024-09-08 04:00 UTC): the hypotheses hold and the two constructors differ -/
def santiago : ZoneData := ⟨-14400, [(1725768000, -10800)]⟩
example : civilSeconds 2024 9 8 0 0 0 = 1725753600 ∧ (1725753600 : Int) % 86400 = 0 := by decide
example : fieldsOf (civil santiago.zone (startOfDay santiago.zone 1725753600)) = (2024, 9, 8, 1, 0, 0) := by decide
example : fieldsOf (civil santiago.zone (naiveDate santiago.zone 1725753600)) = (2024, 9, 7, 23, 0, 0) := by decide
example : InGap 1725753600 1725768000 (-14400) (-10800) := by unfold InGap; decide

/-- where the process zone (and the clock) can enter at all: the regenerated list of every function that reads
    `time.Local` or `time.Now` (the clock: the driver's deadlines and `DateTimeNow` only). The zone is read by the decoders that place a transmitted civil time (`startOfDay`,
    the date-time and system-time decoders), by the status recombination of GetStatus / Listen, and to label devices;
    nothing else - no encoder, no comparison, no request builder - depends on the zone, the date or the time of day. -/
theorem C13_zone_reads : Gen.Source.ambientReads =
    ["types/date.go:startOfDay: time.Local",
     "types/datetime.go:DateTimeNow: time.Now",
     "types/datetime.go:DateTime.UnmarshalJSON: time.Local",
     "types/datetime.go:DateTime.UnmarshalUT0311L0x: time.Local",
     "types/systemtime.go:TimeFromString: time.Local",
     "types/systemtime.go:SystemTime.UnmarshalUT0311L0x: time.Local",
     "uhppote/UT0311.go:ut0311.Broadcast: time.Now",
     "uhppote/UT0311.go:ut0311.BroadcastTo: time.Now",
     "uhppote/UT0311.go:ut0311.SendUDP: time.Now",
     "uhppote/UT0311.go:ut0311.SendTCP: time.Now",
     "uhppote/device.go:NewDevice: time.Local",
     "uhppote/get_device.go:uhppote.GetDevices: time.Local",
     "uhppote/get_device.go:uhppote.GetDevice: time.Local",
     "uhppote/get_status.go:uhppote.GetStatus: time.Local",
     "uhppote/listen.go:uhppote.Listen: time.Local"] := rfl

/-- no date or time function keeps anything between calls (a zone decision taken once per process, a cache of instants): the package-level variables of the four packages (regenerated) are these ten - the
    codec's patterns and kind table, the two card-format patterns, the bind-port mutex, `NOTIMEOUT` and three error
    values - every one of them initialised when its package is loaded. A `sync.Once`, a lazily filled map or a cache
    would have to appear here. -/
theorem C13_package_state : Gen.Source.packageVars = ["encoding/UTO311-L0x/UT0311-L0x.go:var re", "encoding/UTO311-L0x/UT0311-L0x.go:var tBool,tByte,tUint16,…",
    "encoding/UTO311-L0x/UT0311-L0x.go:var vre", "types/card-format.go:var w26", "types/card-format.go:var wAny",
    "uhppote/UT0311.go:var NOTIMEOUT", "uhppote/UT0311.go:var guard", "uhppote/errors.go:var ErrIncorrectController",
    "uhppote/errors.go:var ErrInvalidCard", "uhppote/errors.go:var ErrInvalidListenerAddress"] := rfl

end Uhppote.Props.C13
