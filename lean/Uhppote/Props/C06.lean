import Uhppote.Model.Api
import Uhppote.Spec.Api
import Uhppote.Gen.Routing
import Uhppote.Gen.Driver
import Uhppote.Proofs.Call
/-! # C06 — each request is sent once, to the right endpoint, over the right transport (partial)

The routing closure of `sendto` and `resolve` are regenerated (`Gen.Routing`); `Model.Api.route`
is the closure as a function. Partial: that nobody else on a real LAN hears the datagram is the
kernel's behaviour; the loopback farm observes loopback endpoints only. -/
namespace Uhppote.Props.C06
open Uhppote.Model Uhppote.Model.Api

/-- T4 obligation: the routing closure in the source today is this if-chain -/
theorem C06_route_chain : Gen.Routing.routeChain = [
    ("controller, ok := u.devices[serialNumber]; !ok", "udpBroadcastTo(serialNumber, m)"),
    ("!controller.Address.IsValid() || controller.Address.Addr() == netip.IPv4Unspecified()", "udpBroadcastTo(serialNumber, m)"),
    ("controller.Protocol == \"tcp\"", "tcpSendTo(controller.Address.AddrPort, m)"),
    ("", "udpSendTo(controller.Address.AddrPort, m)")] := rfl

/-- T4 obligation: with no broadcast address configured `resolve` yields 255.255.255.255:60000 -/
theorem C06_default_broadcast : Gen.Routing.defaultBroadcastIP = "255.255.255.255" ∧
    Gen.Routing.defaultBroadcastPort = 60000 := ⟨rfl, rfl⟩

/-- **routing table**: a controller configured with a usable address (valid, not 0.0.0.0, port ≠ 0)
    gets exactly that endpoint over TCP when configured as "tcp" and over connected UDP otherwise;
    every other controller is reached by broadcast to the configured broadcast address, or
    255.255.255.255:60000 when none is configured — for all configurations and serial numbers -/
theorem C06_route (cfg : Cfg) (serial : Nat) (hdef : cfg.defaultBroadcast = "255.255.255.255:60000") :
    ((route cfg serial).1.toString, (route cfg serial).2) = Spec.Api.route cfg serial := by
  unfold route Spec.Api.route
  rw [hdef]
  cases cfg.controllers.find? (·.serial == serial) with
  | none => rfl
  | some c =>
    by_cases h1 : c.addrValid = true <;> by_cases h2 : c.addrUnspecified = true <;> by_cases h3 : c.tcp = true <;>
      simp [h1, h2, h3, Path.toString]

theorem C06_unconfigured_broadcasts (cfg : Cfg) (serial : Nat)
    (h : cfg.controllers.find? (·.serial == serial) = none) :
    (route cfg serial).1 = .broadcastTo ∧
    (route cfg serial).2 = (if cfg.broadcastValid then cfg.broadcast else cfg.defaultBroadcast) := by
  simp [route, h]

theorem C06_unusable_address_broadcasts (cfg : Cfg) (serial : Nat) (c : Controller)
    (h : cfg.controllers.find? (·.serial == serial) = some c) (hu : c.addrValid = false ∨ c.addrUnspecified = true) :
    (route cfg serial).1 = .broadcastTo := by
  rcases hu with hu | hu <;> simp [route, h, hu]

theorem C06_usable_address_directed (cfg : Cfg) (serial : Nat) (c : Controller)
    (h : cfg.controllers.find? (·.serial == serial) = some c) (h1 : c.addrValid = true) (h2 : c.addrUnspecified = false) :
    route cfg serial = (if c.tcp then .tcp else .udp, c.endpoint) := by
  by_cases h3 : c.tcp = true <;> simp [route, h, h1, h2, h3]

/-- exactly one request leaves per call and it goes where the routing table says -/
theorem C06_one_request (F : CodecFacts) (T : BCD.Tables) (B : HHmmBounds) (layouts : String → Option Layout)
    (code : Nat) (cfg : Cfg) (op : Op) (args : List Arg) (arrivals : List Bytes) (L : Layout) (m : Bytes)
    (hacc : op.rejects args = false) (hL : layouts op.request = some L)
    (hm : marshal F T L (op.build args) = .ok m) :
    (call F T B layouts code cfg op args arrivals).1.calls =
      [⟨(route cfg (u32? (arg args 0))).1.toString, (route cfg (u32? (arg args 0))).2, m⟩] :=
  Proofs.Call.call_accepted F T B layouts code cfg op args arrivals L m hacc hL hm

/-! non-vacuity -/
def exampleCfg : Cfg :=
  { controllers := [⟨405419896, "alpha", 60000, true, false, "192.168.1.100:60000", true⟩,
                    ⟨303986753, "beta", 0, false, false, "-", false⟩],
    broadcastValid := false, broadcast := "", broadcastPort := 0, defaultBroadcast := "255.255.255.255:60000" }
example : route exampleCfg 405419896 = (.tcp, "192.168.1.100:60000") := rfl
example : route exampleCfg 303986753 = (.broadcastTo, "255.255.255.255:60000") := rfl
example : route exampleCfg 1 = (.broadcastTo, "255.255.255.255:60000") := rfl

/-- T5 obligation, "from the configured bind address": every request method derives the local address of
    its socket from the configured bind address, falls back to the wildcard address only when none is
    configured (`bind == nil`), and opens its socket on it (UDP: `net.ListenUDP("udp", bind)`; the dialers:
    `LocalAddr: bind`) -/
theorem C06_bind_address : Gen.Driver.bindFacts = [
    ("Broadcast", ["net.UDPAddrFromAddrPort(u.bindAddr)", "bind == nil", "bind"]),
    ("BroadcastTo", ["net.UDPAddrFromAddrPort(u.bindAddr)", "bind == nil", "bind"]),
    ("SendUDP", ["net.UDPAddrFromAddrPort(u.bindAddr)", "bind == nil", "bind"]),
    ("SendTCP", ["net.TCPAddrFromAddrPort(u.bindAddr)", "bind == nil", "bind"])] := rfl

end Uhppote.Props.C06
