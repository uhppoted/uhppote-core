/-! Byte buffers as `List UInt8`, Go-style `copy(dst[off:off+len(src)], src)` and slicing: what a write leaves at
    each position (`getElem?_writeAt`, on which the codec proofs rest) and the frame lemmas of DESIGN.md appendix A.
    Core Lean only. -/
namespace Uhppote

abbrev Bytes := List UInt8

def zeros (n : Nat) : Bytes := List.replicate n 0

/-- `copy(dst[off:off+len(src)], src)` when the slice expression is in bounds -/
def writeAt : Bytes → Nat → Bytes → Bytes
  | dst, _, [] => dst
  | dst, off, b :: bs => writeAt (dst.set off b) (off+1) bs

/-- `b[off:off+n]` as a value (a copy) when in bounds; shorter when not -/
def readAt (b : Bytes) (off n : Nat) : Bytes := (b.drop off).take n

@[simp] theorem length_zeros (n : Nat) : (zeros n).length = n := by simp [zeros]

@[simp] theorem length_writeAt (dst : Bytes) (off : Nat) (src : Bytes) :
    (writeAt dst off src).length = dst.length := by
  induction src generalizing dst off with
  | nil => rfl
  | cons b bs ih => simp [writeAt, ih]

theorem length_readAt (b : Bytes) (off n : Nat) (h : off + n ≤ b.length) :
    (readAt b off n).length = n := by
  simp [readAt]; omega

theorem getElem?_writeAt (dst : Bytes) (off : Nat) (src : Bytes) (i : Nat)
    (h : off + src.length ≤ dst.length) :
    (writeAt dst off src)[i]? =
      if off ≤ i ∧ i < off + src.length then src[i - off]? else dst[i]? := by
  induction src generalizing dst off with
  | nil => simp [writeAt]; intro h1 h2; omega
  | cons b bs ih =>
    simp only [List.length_cons] at h
    rw [writeAt, ih _ _ (by simp only [List.length_set]; omega), List.getElem?_set]
    by_cases h1 : off = i
    · subst h1
      simp [show off < dst.length by omega, show ¬ off + 1 ≤ off by omega]
    · by_cases h2 : off + 1 ≤ i ∧ i < off + 1 + bs.length
      · have e : i - off = (i - (off + 1)) + 1 := by omega
        simp [h2, e, show off ≤ i ∧ i < off + (bs.length + 1) by omega]
      · simp [h1, h2, show ¬ (off ≤ i ∧ i < off + (bs.length + 1)) by omega]

theorem getElem?_readAt (b : Bytes) (o n i : Nat) : (readAt b o n)[i]? = if i < n then b[o + i]? else none := by
  rw [readAt, List.getElem?_take, List.getElem?_drop]

theorem readAt_congr (a b : Bytes) (o n : Nat)
    (h : ∀ i, o ≤ i → i < o + n → a[i]? = b[i]?) : readAt a o n = readAt b o n := by
  apply List.ext_getElem?
  intro i
  rw [getElem?_readAt, getElem?_readAt]
  split
  · exact h _ (by omega) (by omega)
  · rfl

theorem readAt_writeAt_same (dst : Bytes) (off : Nat) (src : Bytes)
    (h : off + src.length ≤ dst.length) :
    readAt (writeAt dst off src) off src.length = src := by
  apply List.ext_getElem?
  intro i
  rw [getElem?_readAt, getElem?_writeAt _ _ _ _ h]
  by_cases hi : i < src.length
  · rw [if_pos hi, if_pos (by omega), Nat.add_sub_cancel_left]
  · rw [if_neg hi, List.getElem?_eq_none (by omega)]

theorem readAt_writeAt_disjoint (dst : Bytes) (off : Nat) (src : Bytes) (o n : Nat)
    (h : off + src.length ≤ dst.length)
    (hd : o + n ≤ off ∨ off + src.length ≤ o) :
    readAt (writeAt dst off src) o n = readAt dst o n :=
  readAt_congr _ _ o n fun i h1 h2 => by rw [getElem?_writeAt _ _ _ _ h, if_neg (by omega)]

end Uhppote
