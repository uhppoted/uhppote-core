import Uhppote.Gen.Ops
import Uhppote.Spec.Api
/-! The operation table of the model (`Gen.Ops.ops`) against the specification's (`Spec.Api.ops`):
    the two list the same operations in the same order, so a statement about every operation and
    "its" specification entry is a statement about the rows of `ops.zip Spec.Api.ops` (`ops_paired`, from the general
    `find?_of_paired`). Also: stepping through a table with string keys (`lookup_cons_ne`), for the layout tables too. -/
namespace Uhppote.Proofs.OpTable
open Uhppote.Model.Api
open Uhppote.Gen.Ops (ops)

theorem find?_key {β} (g : β → String) : ∀ (l : List β), (l.map g).Nodup → ∀ b ∈ l, l.find? (g · == g b) = some b
  | [], _, _, hb => by simp at hb
  | c :: l, hnd, b, hb => by
    simp only [List.map_cons, List.nodup_cons] at hnd
    rcases List.mem_cons.1 hb with rfl | hb
    · exact List.find?_cons_of_pos (by simp)
    · rw [List.find?_cons_of_neg, find?_key g l hnd.2 b hb]
      intro hc
      exact hnd.1 (by rw [eq_of_beq hc]; exact List.mem_map_of_mem hb)

/-- `l₁` lists, under the same keys and in the same order, some of the entries of a table `l₂` without repeated
    keys (`l₂'`: those entries): what holds of every row of `l₁.zip l₂'` holds of each entry of `l₁` and what
    `find?` returns for its key in the whole table. -/
theorem find?_of_paired {α β} (f : α → String) (g : β → String) {P : α → β → Prop} (l₁ : List α) (l₂' l₂ : List β)
    (hs : l₂'.Sublist l₂) (hm : l₁.map f = l₂'.map g) (hnd : (l₂.map g).Nodup)
    (h : ∀ p ∈ l₁.zip l₂', P p.1 p.2) : ∀ a ∈ l₁, ∃ b, l₂.find? (g · == f a) = some b ∧ P a b := by
  intro a ha
  obtain ⟨i, hi, rfl⟩ := List.mem_iff_getElem.1 ha
  have hlen : l₁.length = l₂'.length := by simpa using congrArg List.length hm
  have hk : f l₁[i] = g (l₂'[i]'(hlen ▸ hi)) := by
    have := congrArg (·[i]?) hm
    simpa [List.getElem?_map, List.getElem?_eq_getElem hi, List.getElem?_eq_getElem (hlen ▸ hi)] using this
  refine ⟨l₂'[i]'(hlen ▸ hi), ?_, h (l₁[i], l₂'[i]'(hlen ▸ hi)) ?_⟩
  · rw [hk]
    exact find?_key g l₂ hnd _ (hs.subset (List.getElem_mem _))
  · rw [List.mem_iff_getElem]
    exact ⟨i, by rw [List.length_zip]; omega, by simp⟩

/-- the one place where operation names are compared with each other -/
theorem ops_nodup : (ops.map Op.name).Nodup := by decide +kernel

theorem ops_paired {P : Op → Spec.Api.OpSpec → Prop} (h : ∀ p ∈ ops.zip Spec.Api.ops, P p.1 p.2) :
    ∀ op ∈ ops, ∃ sop, Spec.Api.findOp op.name = some sop ∧ P op sop :=
  find?_of_paired Op.name Spec.Api.OpSpec.name ops Spec.Api.ops Spec.Api.ops (List.Sublist.refl _) rfl
    ((rfl : ops.map Op.name = Spec.Api.ops.map Spec.Api.OpSpec.name) ▸ ops_nodup) h

/-- Stepping over an entry with another key. As a conditional rewrite rule (with `List.lookup_cons_self`,
    `ne_eq`, `String.reduceEq`, `not_false_eq_true`) it walks a table of string keys at the cost of one
    cheap disequality proof per entry; `rfl` and `List.lookup_cons` both evaluate `==` on strings, which
    is several times dearer. -/
theorem lookup_cons_ne {α} {k k' : String} (h : k ≠ k') (v : α) (l : List (String × α)) :
    List.lookup k ((k', v) :: l) = List.lookup k l := by
  have : (k == k') = false := by simpa using h
  simp [List.lookup, this]

end Uhppote.Proofs.OpTable
