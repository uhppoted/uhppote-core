import Uhppote.Spec.Codec
import Uhppote.Proofs.BCD
/-! Per-kind encoder lemmas: the model's `MarshalUT0311L0x` functions (Format + BCD loop, binary.PutUint…) produce the
    arithmetic wire bytes of the specification; what the encoders that refuse an ill-fitting result return has the
    field's width; what the domain predicates bound; the integer wire forms; and Go's base-0 `ParseUint` on the
    `value:` tags the specification's grammar admits. -/
namespace Uhppote.Proofs.Codec
open Uhppote.Model Uhppote.Spec.Codec

/-- two ASCII digits of n (n mod 100) -/
def two (n : Nat) : Bytes := [digitChar (n / 10), digitChar n]

theorem digitChar_congr (a b : Nat) (h : a % 10 = b % 10) : digitChar a = digitChar b := by
  unfold digitChar; rw [h]

theorem fmt2_eq (n : Nat) (h : n < 100) : fmt2 n = two n := by simp [fmt2, two, h]

theorem fmt4_eq (y : Nat) (h : y < 10000) : fmt4 y = two (y / 100) ++ two (y % 100) := by
  simp only [fmt4, h, if_true, two, List.cons_append, List.nil_append]
  rw [digitChar_congr (y / 1000) (y / 100 / 10) (by omega), digitChar_congr (y / 10) (y % 100 / 10) (by omega),
    digitChar_congr y (y % 100) (by omega)]

theorem bcd2_toNat (n : Nat) : (bcd2 n).toNat = n / 10 % 10 * 16 + n % 10 := by
  unfold bcd2; rw [UInt8.toNat_ofNat']; omega

theorem nibblesOk_bcd2 (n : Nat) : nibblesOk (bcd2 n) = true := by
  simp [nibblesOk, bcd2_toNat]; omega

/-- the two digits a BCD byte spells -/
theorem unpack_bcd2 (n : Nat) (r : Bytes) : Spec.BCD.unpack (bcd2 n :: r) = two n ++ Spec.BCD.unpack r := by
  simp only [Spec.BCD.unpack, bcd2_toNat, digitChar, two, List.cons_append, List.nil_append]
  congr 3 <;> omega

/-- decimal bytes are what the encoder makes of the digits they spell: every encoder lemma below says which bytes,
    and reads their digits off with `unpack_bcd2` (`Spec.Codec.nibblesOk` is `Spec.BCD.okByte` under another name: the
    two definitions have the same body) -/
theorem encode_bcd {b s : Bytes} (hb : b.all nibblesOk = true) (hs : Spec.BCD.unpack b = s) :
    BCD.encode BCD.canonical s = some b :=
  hs ▸ Proofs.BCD.encode_unpack hb

theorem encDate_some (d : YMD) (h : d.y < 10000 ∧ d.m < 100 ∧ d.d < 100) :
    encDate BCD.canonical (some d) = some (bcdDate d) := by
  have e : BCD.encode BCD.canonical (fmt4 d.y ++ fmt2 d.m ++ fmt2 d.d) = some (bcdDate d) :=
    encode_bcd (by simp [bcdDate, nibblesOk_bcd2]) (by
      simp only [bcdDate, unpack_bcd2, fmt4_eq _ h.1, fmt2_eq _ h.2.1, fmt2_eq _ h.2.2]; rfl)
  simp only [encDate, e]; rfl

theorem encDateTime_some (d : YMDHMS)
    (h : d.y < 10000 ∧ d.mo < 100 ∧ d.d < 100 ∧ d.h < 100 ∧ d.mi < 100 ∧ d.s < 100) :
    encDateTime BCD.canonical (some d) = some (bcdDateTime d) := by
  have e : BCD.encode BCD.canonical (fmt4 d.y ++ fmt2 d.mo ++ fmt2 d.d ++ fmt2 d.h ++ fmt2 d.mi ++ fmt2 d.s) =
      some (bcdDateTime d) :=
    encode_bcd (by simp [bcdDateTime, nibblesOk_bcd2]) (by
      simp only [bcdDateTime, unpack_bcd2, fmt4_eq _ h.1, fmt2_eq _ h.2.1, fmt2_eq _ h.2.2.1, fmt2_eq _ h.2.2.2.1,
        fmt2_eq _ h.2.2.2.2.1, fmt2_eq _ h.2.2.2.2.2]; rfl)
  simp only [encDateTime, e]; rfl

theorem encDateTime_none : encDateTime BCD.canonical none = some [0x00, 0x01, 0x01, 0x01, 0, 0, 0] := by
  decide

theorem encSysDate_some (d : YMD) (h : d.m < 100 ∧ d.d < 100) :
    encSysDate BCD.canonical (some d) = some [bcd2 (d.y % 100), bcd2 d.m, bcd2 d.d] :=
  encode_bcd (by simp [nibblesOk_bcd2]) (by
    simp only [unpack_bcd2, fmt2_eq (d.y % 100) (by omega), fmt2_eq _ h.1, fmt2_eq _ h.2]; rfl)

theorem encSysTime_eq (t : HMS) (h : t.h < 100 ∧ t.m < 100 ∧ t.s < 100) :
    encSysTime BCD.canonical t = some [bcd2 t.h, bcd2 t.m, bcd2 t.s] :=
  encode_bcd (by simp [nibblesOk_bcd2]) (by
    simp only [unpack_bcd2, fmt2_eq _ h.1, fmt2_eq _ h.2.1, fmt2_eq _ h.2.2]; rfl)

theorem encHHmm_eq (t : HM) (h : 0 ≤ t.h ∧ t.h < 100 ∧ 0 ≤ t.m ∧ t.m < 100) :
    encHHmm BCD.canonical t = some [bcd2 t.h.toNat, bcd2 t.m.toNat] := by
  have e : BCD.encode BCD.canonical (fmt2i t.h ++ fmt2i t.m) = some [bcd2 t.h.toNat, bcd2 t.m.toNat] :=
    encode_bcd (by simp [nibblesOk_bcd2]) (by
      simp only [unpack_bcd2, fmt2i, if_neg (Int.not_lt.2 h.1), if_neg (Int.not_lt.2 h.2.2.1),
        fmt2_eq _ (show t.h.toNat < 100 by omega), fmt2_eq _ (show t.m.toNat < 100 by omega)]; rfl)
  simp only [encHHmm, e]; rfl

/-! ### the encoders that refuse what does not fill their field: what they return has the field's width -/

section
variable (T : BCD.Tables)

theorem length_of_bind_fitting {n : Nat} {x : Option Bytes} {c : Bytes} (h : x.bind (fitting n) = some c) :
    c.length = n := by
  cases x with
  | none => cases h
  | some b => simp only [Option.bind_some, fitting] at h; split at h <;> cases h; assumption

theorem encDate_length {d : Option YMD} {b : Bytes} (h : encDate T d = some b) : b.length = 4 := by
  cases d with
  | none => cases h; rfl
  | some d => exact length_of_bind_fitting h

theorem encDateTime_length {d : Option YMDHMS} {b : Bytes} (h : encDateTime T d = some b) : b.length = 7 := by
  cases d <;> exact length_of_bind_fitting h

theorem encHHmm_length {t : HM} {b : Bytes} (h : encHHmm T t = some b) : b.length = 2 :=
  length_of_bind_fitting h

end

theorem validDate_bounds (d : YMD) (h : validDate d = true) : 1 ≤ d.m ∧ d.m < 100 ∧ d.d < 100 := by
  simp only [validDate, Bool.and_eq_true, decide_eq_true_eq] at h
  have : daysIn d.y d.m ≤ 31 := by
    unfold daysIn; split <;> (try split) <;> omega
  omega

theorem dateInDomain_bounds (d : YMD) (h : dateInDomain d = true) : d.y < 10000 ∧ d.m < 100 ∧ d.d < 100 := by
  simp only [dateInDomain, Bool.and_eq_true, decide_eq_true_eq] at h
  have := validDate_bounds d h.1.1.1
  omega

theorem dateTimeInDomain_bounds (d : YMDHMS) (h : dateTimeInDomain d = true) :
    d.y < 10000 ∧ d.mo < 100 ∧ d.d < 100 ∧ d.h < 100 ∧ d.mi < 100 ∧ d.s < 100 := by
  simp only [dateTimeInDomain, Bool.and_eq_true, decide_eq_true_eq] at h
  have := validDate_bounds ⟨d.y, d.mo, d.d⟩ h.1.1.1.1.1.1
  simp only at this
  omega

theorem ofNat_mod (n : Nat) : UInt8.ofNat (n % 256) = UInt8.ofNat n := by
  apply UInt8.toNat_inj.1; simp [UInt8.toNat_ofNat']

theorem le32_wire (v : Nat) :
    le32 v = [UInt8.ofNat (v % 256), UInt8.ofNat (v / 256 % 256), UInt8.ofNat (v / 65536 % 256), UInt8.ofNat (v / 16777216)] := by
  rw [le32, ofNat_mod (v / 16777216)]

theorem le16_wire (v : Nat) : le16 v = [UInt8.ofNat (v % 256), UInt8.ofNat (v / 256)] := by
  rw [le16, ofNat_mod (v / 256)]

theorem be16_wire (v : Nat) : be16 v = [UInt8.ofNat (v / 256), UInt8.ofNat (v % 256)] := by
  rw [be16, ofNat_mod (v / 256)]

theorem encPIN_wire (v : Nat) : encPIN v = [UInt8.ofNat (v % 256), UInt8.ofNat (v / 256 % 256), UInt8.ofNat (v / 65536)] := by
  rw [encPIN, le32, ofNat_mod (v / 65536)]; rfl

theorem encMac_six (bs : Bytes) (h : bs.length = 6) : encMac bs = bs := by
  unfold encMac
  rw [List.take_append_of_le_length (by omega), List.take_of_length_le (by omega)]

theorem parseBase0_hex (r : List Char) (hr : r.isEmpty = false) :
    parseBase0 ('0' :: 'x' :: r) = parseDigits 16 r 0 ∧ parseBase0 ('0' :: 'X' :: r) = parseDigits 16 r 0 := by
  simp [parseBase0, hr]

theorem parseBase0_fall (cs : List Char) (h : ∀ tail, cs = '0' :: tail → False) :
    parseBase0 cs = parseDigits 10 cs 0 := by
  unfold parseBase0
  split <;> first | rfl | (exfalso; exact h _ rfl)

theorem fits8_bind (o : Option Nat) : fits8 o = o.bind fun n => if n < 256 then some n else none := by
  cases o <;> rfl

theorem parseUint8_lt {base : Nat} {s : String} {n : Nat} (h : parseUint8 base s = some n) : n < 256 := by
  have : ∀ o, fits8 o = some n → n < 256 := by
    intro o ho
    cases o <;> simp only [fits8] at ho
    · cases ho
    · split at ho <;> cases ho; assumption
  unfold parseUint8 at h
  split at h
  · cases h
  · split at h <;> exact this _ h

/-- on the tag grammar of the property (plain decimal / 0x hex) Go's base-0 `ParseUint` gives
    the denoted number -/
theorem parseUint8_of_tagValue (t : String) (n : Nat) (h : tagValue t = some n) :
    parseUint8 0 t = some n := by
  unfold tagValue at h
  unfold parseUint8
  -- the arms of `tagValue`: 0x.., 0X.., "0", another leading 0 (not in the grammar), plain decimal
  split at h
  · rename_i r heq
    split at h
    · cases h
    · rename_i hr
      have hr' : r.isEmpty = false := by simpa using hr
      simp [heq, (parseBase0_hex r hr').1, fits8_bind, h]
  · rename_i r heq
    split at h
    · cases h
    · rename_i hr
      have hr' : r.isEmpty = false := by simpa using hr
      simp [heq, (parseBase0_hex r hr').2, fits8_bind, h]
  · rename_i heq
    cases h
    simp [heq, parseBase0, fits8]
  · cases h
  · rename_i cs h1 h2 h3 h4
    split at h
    · cases h
    · rename_i hcs
      have hne : t.toList.isEmpty = false := by
        cases hl : t.toList with
        | nil => simp [hl] at hcs
        | cons a b => rfl
      simp [hne, parseBase0_fall _ h4, fits8_bind, h]

/-! Two statements with the conclusion `True`; no proof uses them. -/

theorem parseDigits_lt (base : Nat) : ∀ (cs : List Char) (acc n : Nat),
    parseDigits base cs acc = some n → True := fun _ _ _ _ => trivial

theorem to4_wire' : True := trivial

end Uhppote.Proofs.Codec
