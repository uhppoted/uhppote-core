/-! Decimal numerals of a given width, for the text models (`Model.Text`, `Model.Addr`): both spell
    out the digit test `'0' ≤ c && c ≤ '9'` and the value fold `a * 10 + (c.toNat - 48)` under names
    of their own, so the lemmas here are about the spelt-out forms and apply to either by unfolding. -/
namespace Uhppote.Proofs.Digits

/-- the `w` low decimal digits of `n`, most significant first: `%0wd` for `n < 10 ^ w` -/
def digits : Nat → Nat → List Char
  | 0, _ => []
  | w + 1, n => digits w (n / 10) ++ [Char.ofNat (48 + n % 10)]

/-- the ten digit characters: all that the text proofs use about `Char.ofNat` -/
theorem digit_facts : ∀ m, m < 10 → ('0' ≤ Char.ofNat (48 + m) && Char.ofNat (48 + m) ≤ '9') = true ∧
    (Char.ofNat (48 + m)).toNat - 48 = m ∧ (Char.ofNat (48 + m) = '0' ↔ m = 0) := by decide

theorem length_digits : ∀ w n, (digits w n).length = w
  | 0, _ => rfl
  | w + 1, n => by simp only [digits, List.length_append, length_digits w, List.length_cons, List.length_nil]

theorem all_digits : ∀ w n, (digits w n).all (fun c => '0' ≤ c && c ≤ '9') = true
  | 0, _ => rfl
  | w + 1, n => by
    simp only [digits, List.all_append, all_digits w, List.all_cons,
      (digit_facts _ (Nat.mod_lt n (by decide))).1, List.all_nil, Bool.and_self]

/-- positional value -/
theorem val_digits : ∀ w n, (digits w n).foldl (fun a c => a * 10 + (c.toNat - 48)) 0 = n % 10 ^ w
  | 0, n => by simp only [digits, List.foldl_nil, Nat.pow_zero, Nat.mod_one]
  | w + 1, n => by
    simp only [digits, List.foldl_append, val_digits w, List.foldl_cons, List.foldl_nil,
      (digit_facts _ (Nat.mod_lt n (by decide))).2.1]
    rw [Nat.pow_succ, Nat.mul_comm (10 ^ w), Nat.mod_mul, Nat.add_comm, Nat.mul_comm]

end Uhppote.Proofs.Digits
