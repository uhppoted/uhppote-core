import Uhppote.Model.Api
/-! What a read into a receive buffer makes of a datagram (generic lemmas for C03 C10 C11). -/
namespace Uhppote.Proofs.Buffers
open Uhppote.Model.Api

def passes (serial : Nat) (d : Bytes) : Bool := d.length == 64 && serialOf d == serial

/-- with a buffer of more than 64 bytes the datagram the library looks at is 64 bytes long exactly
    when the datagram on the wire is, it then is that datagram, and it passes the broadcast filter
    exactly when the datagram on the wire does -/
theorem length_visible (n : Nat) (h : 64 < n) (S : Nat) (d : Bytes) :
    ((received n d).length = 64 ↔ d.length = 64) ∧ (d.length = 64 → received n d = d) ∧
    passes S (received n d) = passes S d := by
  have h1 : (received n d).length = 64 ↔ d.length = 64 := by
    unfold received; rw [List.length_take]; omega
  have h2 : d.length = 64 → received n d = d :=
    fun hd => List.take_of_length_le (by omega)
  refine ⟨h1, h2, ?_⟩
  by_cases hd : d.length = 64
  · rw [h2 hd]
  · -- neither is 64 bytes long: both fail the length test
    unfold passes
    rw [beq_false_of_ne (mt h1.1 hd), beq_false_of_ne hd]
    rfl

/-- … in particular an over-long (or short) datagram is still seen as one -/
theorem overlong_seen (n : Nat) (h : 64 < n) (d : Bytes) (hd : d.length ≠ 64) : (received n d).length ≠ 64 :=
  mt (length_visible n h 0 d).1.1 hd

end Uhppote.Proofs.Buffers
