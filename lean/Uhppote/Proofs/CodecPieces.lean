import Uhppote.Proofs.CodecLeaves
/-! The specification's image as a list of pieces: each leaf contributes the piece `(offset, bytes)`, which stays
    inside the range the leaf owns; in a well-formed layout the pieces fit into the 64 bytes and are pairwise
    disjoint, so every position is covered by at most one of them. `Wire` is `Spec.Codec.wire` read as a relation (one
    constructor per arm), `Writes` the pieces a walk writes for any values. -/
namespace Uhppote.Proofs.Codec
open Uhppote.Model Uhppote.Spec.Codec

abbrev Piece := Nat × Bytes

def covers (i : Nat) (p : Piece) : Bool := p.1 ≤ i && i < p.1 + p.2.length

theorem covers_iff {i : Nat} {p : Piece} : covers i p = true ↔ p.1 ≤ i ∧ i < p.1 + p.2.length := by
  simp [covers]

theorem covers_eq_false_iff {i : Nat} {p : Piece} : covers i p = false ↔ i < p.1 ∨ p.1 + p.2.length ≤ i := by
  rw [← Bool.not_eq_true, covers_iff]; omega

def disj (p q : Piece) : Prop := p.1 + p.2.length ≤ q.1 ∨ q.1 + q.2.length ≤ p.1

theorem imageByte_eq (ps : List Piece) (i : Nat) :
    imageByte ps i = match ps.find? (covers i) with
      | some p => p.2.getD (i - p.1) 0
      | none => if i = 0 then 0x17 else 0 := by
  unfold imageByte
  have hfind : ps.find? (fun (x : Nat × Bytes) => match x with | (o, b) => decide (o ≤ i) && decide (i < o + b.length))
      = ps.find? (covers i) := by
    congr 1
  rw [hfind]
  cases ps.find? (covers i) with
  | some p => rfl
  | none => rfl

def imageOf (ps : List Piece) : Bytes := (List.range 64).map (imageByte ps)

theorem length_imageOf (ps : List Piece) : (imageOf ps).length = 64 := by simp [imageOf]

theorem imageOf_get (ps : List Piece) (i : Nat) (h : i < 64) : (imageOf ps)[i]? = some (imageByte ps i) := by
  simp [imageOf, h]

theorem getD_imageOf (ps : List Piece) (i : Nat) (h : i < 64) : (imageOf ps).getD i 0 = imageByte ps i := by
  rw [List.getD_eq_getElem?_getD, imageOf_get ps i h]; rfl

theorem image_eq (ls : List Leaf) (vs : List Val) : image ls vs = (pieces ls vs).map imageOf := rfl

/-- the wire format as a table: `Wire k v b` - the in-domain value `v` of a field of kind `k` is the bytes `b` on the
    wire (`Spec.Codec.wire` read as a relation, one constructor per arm, so that proofs go by named cases) -/
inductive Wire : Kind → Val → Bytes → Prop
  | u8 (x : UInt8) : Wire .u8 (.u8 x) [x]
  | u16 (x : Nat) (h : x < 65536) : Wire .u16 (.u16 x) [UInt8.ofNat (x % 256), UInt8.ofNat (x / 256)]
  | u32 (x : Nat) (h : x < 4294967296) : Wire .u32 (.u32 x)
      [UInt8.ofNat (x % 256), UInt8.ofNat (x / 256 % 256), UInt8.ofNat (x / 65536 % 256), UInt8.ofNat (x / 16777216)]
  | serial (x : Nat) (h : x < 4294967296) : Wire .serial (.u32 x)
      [UInt8.ofNat (x % 256), UInt8.ofNat (x / 256 % 256), UInt8.ofNat (x / 65536 % 256), UInt8.ofNat (x / 16777216)]
  | bool (x : Bool) : Wire .bool (.bool x) [if x then 1 else 0]
  | ip4 (bs : Bytes) (h : bs.length = 4) : Wire .ipv4 (.ip bs) bs
  | ip16 (bs : Bytes) (h : bs.length = 16 ∧ bs.take 12 = [0, 0, 0, 0, 0, 0, 0, 0, 0, 0, 0xff, 0xff]) : Wire .ipv4 (.ip bs) (bs.drop 12)
  | addrPort (a b c d : UInt8) (p : Nat) (h : p < 65536) : Wire .addrPort (.addrPort (.v4 a b c d p))
      [a, b, c, d, UInt8.ofNat (p % 256), UInt8.ofNat (p / 256)]
  | mac (bs : Bytes) (h : bs.length = 6) : Wire .mac (.mac bs) bs
  | macAddress (bs : Bytes) (h : bs.length = 6) : Wire .macAddress (.mac bs) bs
  | datePtrNil : Wire .datePtr (.datePtr none) []
  | dateTimePtrNil : Wire .dateTimePtr (.dateTimePtr none) []
  | hhmmPtrNil : Wire .hhmmPtr (.hhmmPtr none) []
  | dateNone : Wire .date (.date none) [0, 0, 0, 0]
  | datePtrNone : Wire .datePtr (.datePtr (some none)) [0, 0, 0, 0]
  | date (d : YMD) (h : dateInDomain d = true) : Wire .date (.date (some d)) (bcdDate d)
  | datePtr (d : YMD) (h : dateInDomain d = true) : Wire .datePtr (.datePtr (some (some d))) (bcdDate d)
  | dateTimeNone : Wire .dateTime (.dateTime none) [0x00, 0x01, 0x01, 0x01, 0, 0, 0]
  | dateTimePtrNone : Wire .dateTimePtr (.dateTimePtr (some none)) [0x00, 0x01, 0x01, 0x01, 0, 0, 0]
  | dateTime (d : YMDHMS) (h : dateTimeInDomain d = true) : Wire .dateTime (.dateTime (some d)) (bcdDateTime d)
  | dateTimePtr (d : YMDHMS) (h : dateTimeInDomain d = true) :
      Wire .dateTimePtr (.dateTimePtr (some (some d))) (bcdDateTime d)
  | sysDate (d : YMD) (h : (validDate d && decide (1969 ≤ d.y) && decide (d.y ≤ 2068)) = true) :
      Wire .sysDate (.sysDate (some d)) [bcd2 (d.y % 100), bcd2 d.m, bcd2 d.d]
  | sysTime (t : HMS) (h : (decide (t.h < 24) && decide (t.m < 60) && decide (t.s < 60)) = true) :
      Wire .sysTime (.sysTime t) [bcd2 t.h, bcd2 t.m, bcd2 t.s]
  | hhmm (t : HM) (h : hhmmInDomain t = true) : Wire .hhmm (.hhmm t) [bcd2 t.h.toNat, bcd2 t.m.toNat]
  | hhmmPtr (t : HM) (h : hhmmInDomain t = true) : Wire .hhmmPtr (.hhmmPtr (some t)) [bcd2 t.h.toNat, bcd2 t.m.toNat]
  | pin (x : Nat) (h : x ≤ 999999) : Wire .pin (.u32 x)
      [UInt8.ofNat (x % 256), UInt8.ofNat (x / 256 % 256), UInt8.ofNat (x / 65536)]
  | version (x : Nat) (h : x < 65536) : Wire .version (.u16 x) [UInt8.ofNat (x / 256), UInt8.ofNat (x % 256)]

theorem Wire.of_wire {k : Kind} {v : Val} {b : Bytes} (h : wire k v = some b) : Wire k v b := by
  unfold wire at h
  split at h
  all_goals first
    | (cases h; constructor)                                       -- an arm without a condition
    | (split at h <;> cases h; constructor <;> assumption)         -- an arm with one condition
    | skip
  -- IPv4: two conditions
  · split at h
    · cases h; exact .ip4 _ ‹_›
    · split at h <;> cases h
      exact .ip16 _ ‹_›
  -- a value of another type
  · cases h

theorem Wire.length_le {k : Kind} {v : Val} {b : Bytes} (h : Wire k v b) : b.length ≤ k.width := by
  cases h <;> simp [Kind.width, bcdDate, bcdDateTime, *]

/-- a piece stays inside the range its leaf owns -/
def within (p : Piece) (l : Leaf) : Prop :=
  match extent l with
  | some (o, w) => p.1 = o ∧ p.2.length ≤ w
  | none => p = (0, [])

theorem within_of_extent {p : Piece} {l : Leaf} {o w : Nat} (he : extent l = some (o, w)) :
    within p l ↔ p.1 = o ∧ p.2.length ≤ w := by
  simp [within, he]

/-- a piece inside its leaf's range: the empty piece at 0 for a leaf that owns none -/
theorem within_cases {p : Piece} {l : Leaf} (h : within p l) :
    (extent l = none ∧ p = (0, [])) ∨ ∃ o w, extent l = some (o, w) ∧ p.1 = o ∧ p.2.length ≤ w := by
  unfold within at h
  cases he : extent l with
  | none => exact .inl ⟨rfl, by rwa [he] at h⟩
  | some e => exact .inr ⟨e.1, e.2, rfl, by rwa [he] at h⟩

theorem leafWire_within (l : Leaf) (v : Val) (p : Piece) (h : leafWire l v = some p) : within p l := by
  cases l using leafCases with
  | skip => cases h; rfl
  | som t =>
    cases t with
    | none => cases v <;> simp only [leafWire] at h <;> cases h; simp [within, extent]
    | some t => simp only [leafWire, Option.map_eq_some_iff] at h; obtain ⟨n, _, rfl⟩ := h; simp [within, extent]
  | msgType t =>
    cases t with
    | none => cases v <;> simp only [leafWire] at h <;> cases h; simp [within, extent]
    | some t => simp only [leafWire, Option.map_eq_some_iff] at h; obtain ⟨n, _, rfl⟩ := h; simp [within, extent]
  | fixed off t =>
    simp only [leafWire, Option.map_eq_some_iff] at h; obtain ⟨n, _, rfl⟩ := h; simp [within, extent, Kind.width]
  | plain off k tag hk =>
    rw [leafWire_plain hk, Option.map_eq_some_iff] at h
    obtain ⟨b, hw, rfl⟩ := h
    exact ⟨rfl, (Wire.of_wire hw).length_le⟩

theorem pieces_cons_inv {l : Leaf} {ls : List Leaf} {vs : List Val} {ps : List Piece}
    (h : pieces (l :: ls) vs = some ps) :
    ∃ v vs' p ps', vs = v :: vs' ∧ leafWire l v = some p ∧ pieces ls vs' = some ps' ∧ ps = p :: ps' := by
  cases vs with
  | nil => cases h
  | cons v vs' =>
    simp only [pieces] at h
    cases hw : leafWire l v <;> cases hr : pieces ls vs' <;> simp only [hw, hr] at h <;> cases h
    exact ⟨v, vs', _, _, rfl, hw, hr, rfl⟩

/-- induction along `pieces`: the three lists are walked together -/
theorem pieces_induction {motive : (ls : List Leaf) → (vs : List Val) → (ps : List Piece) → pieces ls vs = some ps → Prop}
    (nil : motive [] [] [] rfl)
    (cons : ∀ l ls v vs p ps (hw : leafWire l v = some p) (hr : pieces ls vs = some ps), motive ls vs ps hr →
      motive (l :: ls) (v :: vs) (p :: ps) (by simp only [pieces, hw, hr])) :
    ∀ ls vs ps h, motive ls vs ps h
  | [], [], ps, h => by cases h; exact nil
  | [], _ :: _, _, h => by cases h
  | l :: ls, vs, ps, h => by
    obtain ⟨v, vs', p, ps', rfl, hw, hr, rfl⟩ := pieces_cons_inv h
    exact cons _ _ _ _ _ _ hw hr (pieces_induction nil cons ls vs' ps' hr)

def extDisj (l l' : Leaf) : Prop :=
  match extent l, extent l' with
  | some (o, w), some (o', w') => o + w ≤ o' ∨ o' + w' ≤ o
  | _, _ => True

theorem extDisj_symm (l l' : Leaf) (h : extDisj l l') : extDisj l' l := by
  unfold extDisj at *
  cases h1 : extent l <;> cases h2 : extent l' <;> simp only [h1, h2] at h ⊢
  rename_i a b; obtain ⟨o, w⟩ := a; obtain ⟨o', w'⟩ := b
  simp only at h ⊢; omega

theorem pairwise_extDisj : ∀ (ls : List Leaf), rangesDisjoint (ls.filterMap extent) = true → ls.Pairwise extDisj
  | [], _ => List.Pairwise.nil
  | l :: ls, h => by
    cases he : extent l with
    | none =>
      simp only [List.filterMap_cons, he] at h
      refine List.pairwise_cons.2 ⟨?_, pairwise_extDisj ls h⟩
      intro l' _; simp [extDisj, he]
    | some e =>
      simp only [List.filterMap_cons, he, rangesDisjoint, Bool.and_eq_true, List.all_eq_true] at h
      refine List.pairwise_cons.2 ⟨?_, pairwise_extDisj ls h.2⟩
      intro l' hl'
      unfold extDisj
      cases he' : extent l' with
      | none => simp [he]
      | some e' =>
        obtain ⟨o', w'⟩ := e'
        have hmem : (o', w') ∈ ls.filterMap extent := by
          rw [List.mem_filterMap]; exact ⟨l', hl', he'⟩
        have := h.1 (o', w') hmem
        simp only [Bool.or_eq_true, decide_eq_true_eq] at this
        simp only [he]; exact this

theorem within_fit {p : Piece} {l : Leaf} (h : within p l) (hf : InMessage l) :
    p.1 + p.2.length ≤ 64 := by
  rcases within_cases h with ⟨_, rfl⟩ | ⟨o, w, he, h1, h2⟩
  · simp
  · have := hf o w he; omega

theorem disj_of_within {p q : Piece} {l l' : Leaf} (hp : within p l) (hq : within q l') (hd : extDisj l l') :
    disj p q := by
  unfold disj
  -- an empty piece at 0 is disjoint from everything; two owned ranges are disjoint by `hd`
  rcases within_cases hp with ⟨_, rfl⟩ | ⟨o, w, he, h1, h2⟩
  · left; simp
  rcases within_cases hq with ⟨_, rfl⟩ | ⟨o', w', he', h1', h2'⟩
  · right; simp
  · simp only [extDisj, he, he'] at hd; omega

/-- the pieces the walk writes, leaf by leaf (it ends when the leaves or the values run out): the specification's
    piece where the value is in its domain, some piece inside the leaf's own range where it is not -/
inductive Writes : List Leaf → List Val → List Piece → Prop
  | done {ls : List Leaf} {vs : List Val} (h : ls = [] ∨ vs = []) : Writes ls vs []
  | cons {l : Leaf} {ls : List Leaf} {v : Val} {vs : List Val} {p : Piece} {ps : List Piece} :
      within p l → (∀ q, leafWire l v = some q → p = q) → Writes ls vs ps → Writes (l :: ls) (v :: vs) (p :: ps)

theorem Writes.of_pieces (ls : List Leaf) (vs : List Val) (ps : List Piece) (h : pieces ls vs = some ps) :
    Writes ls vs ps := by
  induction ls, vs, ps, h using pieces_induction with
  | nil => exact .done (.inl rfl)
  | cons l ls v vs p ps hw _ ih => exact .cons (leafWire_within l v p hw) (fun q hq => by rw [hw] at hq; cases hq; rfl) ih

section
variable {ls : List Leaf} {vs : List Val} {ps : List Piece} (hE : Writes ls vs ps)
include hE

theorem Writes.all_within : ∀ q ∈ ps, ∃ l ∈ ls, within q l := by
  induction hE with
  | done => simp
  | cons hw _ _ ih =>
    intro q hq
    rcases List.mem_cons.1 hq with rfl | hq
    · exact ⟨_, by simp, hw⟩
    · obtain ⟨l', hl', hwi⟩ := ih q hq
      exact ⟨l', by simp [hl'], hwi⟩

theorem Writes.fit (hf : ∀ l ∈ ls, InMessage l) : ∀ p ∈ ps, p.1 + p.2.length ≤ 64 :=
  fun p hp => by obtain ⟨l, hl, hw⟩ := hE.all_within p hp; exact within_fit hw (hf l hl)

theorem Writes.pairwise_disj (hd : ls.Pairwise extDisj) : ps.Pairwise disj := by
  induction hE with
  | done => exact .nil
  | cons hw _ hE ih =>
    obtain ⟨hh, ht⟩ := List.pairwise_cons.1 hd
    refine List.pairwise_cons.2 ⟨fun q hq => ?_, ih ht⟩
    obtain ⟨l', hl', hq'⟩ := hE.all_within q hq
    exact disj_of_within hw hq' (hh l' hl')

end

theorem pieces_within {ls : List Leaf} {vs : List Val} {ps : List Piece} (h : pieces ls vs = some ps) :
    ∀ q ∈ ps, ∃ l ∈ ls, within q l :=
  (Writes.of_pieces ls vs ps h).all_within

end Uhppote.Proofs.Codec
