import Uhppote.Proofs.CodecLeaves
/-! Frame: the result of `unmarshal` depends only on the length, the two header bytes and the
    bytes inside the ranges of the layout's fields. -/
namespace Uhppote.Proofs.Codec
open Uhppote.Model

/-- byte positions a layout reads: the header and every field's range -/
def Reads (ls : List Leaf) (i : Nat) : Prop :=
  i < 2 ∨ ∃ l ∈ ls, match l with
    | .at off k _ => off ≤ i ∧ i < off + k.width
    | _ => False

variable (F : CodecFacts) (T : BCD.Tables) (B : HHmmBounds)

theorem getD_congr (b1 b2 : Bytes) (i : Nat) (h : b1[i]? = b2[i]?) : b1.getD i 0 = b2.getD i 0 := by
  simp [List.getD, h]

theorem unmarshalLeaf_frame (b1 b2 : Bytes) (hlen : b1.length = b2.length) (l : Leaf)
    (h : ∀ i, Reads [l] i → b1[i]? = b2[i]?) : unmarshalLeaf F T B b1 l = unmarshalLeaf F T B b2 l := by
  cases l with
  | skip => rfl
  | som t => rfl
  | msgType t =>
    have h1 := getD_congr b1 b2 1 (h 1 (Or.inl (by omega)))
    simp only [unmarshalLeaf, h1]
  | «at» off k tag =>
    have hr : readAt b1 off k.width = readAt b2 off k.width :=
      readAt_congr b1 b2 off k.width (fun i h1 h2 => h i (Or.inr ⟨.at off k tag, by simp, (⟨h1, h2⟩ : off ≤ i ∧ i < off + k.width)⟩))
    simp only [unmarshalLeaf, hlen, hr]
    -- a fixed byte is also indexed directly, `bytes[off]`: that position lies in the range because no kind is empty
    by_cases hw : 0 < k.width
    · have h0 := getD_congr b1 b2 off (h off (Or.inr ⟨.at off k tag, by simp, (⟨Nat.le_refl _, by omega⟩ : off ≤ off ∧ off < off + k.width)⟩))
      simp only [h0]
    · have : k.width = 0 := by omega
      cases k <;> simp [Kind.width] at this

theorem reads_mono {ls ls' : List Leaf} (hsub : ∀ l ∈ ls, l ∈ ls') (i : Nat) (h : Reads ls i) : Reads ls' i := by
  rcases h with h | ⟨l, hl, hm⟩
  · exact Or.inl h
  · exact Or.inr ⟨l, hsub l hl, hm⟩

theorem unmarshalLeaves_frame (b1 b2 : Bytes) (hlen : b1.length = b2.length) :
    ∀ (ls : List Leaf), (∀ i, Reads ls i → b1[i]? = b2[i]?) →
      unmarshalLeaves F T B b1 ls = unmarshalLeaves F T B b2 ls
  | [], _ => rfl
  | l :: ls, h => by
    have h1 := unmarshalLeaf_frame F T B b1 b2 hlen l (fun i hi => h i (reads_mono (by simp) i hi))
    have ih := unmarshalLeaves_frame b1 b2 hlen ls (fun i hi => h i (reads_mono (fun x hx => by simp [hx]) i hi))
    simp only [unmarshalLeaves, h1, ih]

/-- **frame**: two buffers of equal length that agree on the header and on every field's range
    decode to the same outcome (`hF` only turns the walk over the fields into the walk over the leaves, for which the
    lemmas above are stated; the walk over the fields has the same property for any facts) -/
theorem unmarshal_frame (hF : F.embeddedErrorReturned = true) (L : Layout) (b1 b2 : Bytes)
    (hlen : b1.length = b2.length) (h : ∀ i, Reads L.leaves i → b1[i]? = b2[i]?) :
    unmarshal F T B L b1 = unmarshal F T B L b2 := by
  have h0 := getD_congr b1 b2 0 (h 0 (Or.inl (by omega)))
  have h1 := getD_congr b1 b2 1 (h 1 (Or.inl (by omega)))
  unfold unmarshal
  rw [hlen, h0, h1, unmarshalFields_eq_leaves F T B b1 hF, unmarshalFields_eq_leaves F T B b2 hF,
    unmarshalLeaves_frame F T B b1 b2 hlen L.leaves h]

end Uhppote.Proofs.Codec
