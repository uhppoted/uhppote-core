import Uhppote.Gen.Messages
import Uhppote.Spec.Protocol
import Uhppote.Spec.Codec
/-! The message layouts regenerated from messages/*.go are the protocol tables, and every one of them is well formed:
    what C01, C02, C04 and C05 (and through them C10, C11) need to instantiate the generic codec theorems (C18) to a shipped message type. -/
namespace Uhppote.Proofs.Layouts
open Uhppote.Model Uhppote.Spec.Codec

theorem layouts : Gen.Messages.all = Spec.Protocol.all := rfl

theorem layouts_wf : Spec.Protocol.all.all (fun p => wf p.2.leaves) = true := by decide +kernel

theorem mem_of_lookup {α} (l : List (String × α)) (k : String) (v : α) (h : l.lookup k = some v) : (k, v) ∈ l := by
  obtain ⟨l₁, l₂, rfl, _⟩ := List.lookup_eq_some_iff.1 h
  simp

theorem wf_of_lookup {n : String} {L : Layout} (h : Gen.Messages.all.lookup n = some L) : wf L.leaves = true :=
  List.all_eq_true.1 layouts_wf (n, L) (mem_of_lookup _ _ _ (layouts ▸ h))

end Uhppote.Proofs.Layouts
