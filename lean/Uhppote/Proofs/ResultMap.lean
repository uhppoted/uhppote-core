import Uhppote.Model.Api
import Uhppote.Spec.Api
/-! Name-keyed reply fields (specification) against positions in the reply struct (model): `get_zip_pos` with the
    position lemmas; slices of a reply as lists of positional reads; the status date-time in the two vocabularies.
    For C02. -/
namespace Uhppote.Proofs.ResultMap
open Uhppote.Model Uhppote.Model.Api

/-- position of a field name in a layout -/
def pos : List String → String → Option Nat
  | [], _ => none
  | m :: ms, n => if n = m then some 0 else (pos ms n).map (· + 1)

/-! `pos` of a literal name in a literal list is computed by rewriting with these two (and
    `String.reduceEq` for the side condition): the comparison is then on propositions `"a" = "b"`,
    which is far cheaper to settle than the Boolean `==` that `List.lookup` and `List.idxOf` use. -/
theorem pos_cons_self (n : String) (ms : List String) : pos (n :: ms) n = some 0 := by
  simp [pos]

theorem pos_cons_ne {n m : String} (h : n ≠ m) (ms : List String) : pos (m :: ms) n = (pos ms n).map (· + 1) := by
  simp [pos, h]

theorem get_zip_pos : ∀ (names : List String) (r : List Val) (n : String),
    Spec.Api.get (names.zip r) n = match pos names n with
      | some i => r.getD i .none_
      | none => .none_
  | [], _, _ => by simp [Spec.Api.get, pos]
  | m :: names, [], n => by
    simp only [List.zip_nil_right, Spec.Api.get, List.lookup, Option.getD_none]
    cases pos (m :: names) n <;> simp
  | m :: names, v :: r, n => by
    by_cases hm : n = m
    · subst hm; simp [Spec.Api.get, pos]
    · have ih := get_zip_pos names r n
      have hne : (n == m) = false := by simpa using hm
      simp only [Spec.Api.get, List.zip_cons_cons, List.lookup, hne, pos, hm, if_false] at ih ⊢
      rw [ih]
      cases pos names n <;> simp

theorem pos_eq_idxOf : ∀ (names : List String) (n : String), n ∈ names → pos names n = some (names.idxOf n)
  | [], _, h => by simp at h
  | m :: names, n, h => by
    by_cases hm : n = m
    · subst hm; simp [pos]
    · have hmem : n ∈ names := (List.mem_cons.1 h).resolve_left hm
      have hne : (m == n) = false := by simpa using Ne.symm hm
      rw [pos_cons_ne hm, pos_eq_idxOf names n hmem, List.idxOf_cons, hne]
      rfl

theorem get_zip : ∀ (names : List String) (r : List Val) (n : String), n ∈ names →
    Spec.Api.get (names.zip r) n = r.getD (names.idxOf n) .none_ := by
  intro names r n h
  rw [get_zip_pos, pos_eq_idxOf names n h]

theorem names_cons_leaf (n : String) (l : Leaf) (L : Layout) : Layout.names (.leaf n l :: L) = n :: Layout.names L := rfl
theorem names_nil : Layout.names [] = [] := rfl

theorem take_drop_getD (r : List Val) (o k : Nat) (h : o + k ≤ r.length) :
    (r.drop o).take k = (List.range k).map (fun i => r.getD (o + i) .none_) := by
  apply List.ext_getElem?
  intro i
  rw [List.getElem?_take]
  by_cases hi : i < k
  · simp only [hi, if_true, List.getElem?_drop, List.getElem?_map, List.getElem?_range hi, Option.map_some]
    rw [List.getD_eq_getElem?_getD, List.getElem?_eq_getElem (by omega)]
    rfl
  · simp only [hi, if_false]
    rw [List.getElem?_eq_none]
    simp; omega

theorem drop_getD (r : List Val) (o k : Nat) (h : o + k = r.length) :
    r.drop o = (List.range k).map (fun i => r.getD (o + i) .none_) := by
  have := take_drop_getD r o k (by omega)
  rw [← this, List.take_of_length_le (by simp; omega)]

theorem getD_of_getElem? {r : List Val} {i : Nat} {v : Val} (h : r[i]? = some v) : r.getD i .none_ = v := by
  simp [h]

/-- with a system date after year 1 (every decoded one is: the two-digit-year pivot gives 1969..2068)
    the model's "0001-01-01 00:00:00 means no date-time" branch is dead -/
theorem sysDateTime_spec (date time : Val) (h : ∀ d, date = .sysDate (some d) → 1969 ≤ d.y) :
    sysDateTime date time = match (generalizing := false) date, time with
      | .sysDate (some d), .sysTime t => .dateTime (some ⟨d.y, d.m, d.d, t.h, t.m, t.s⟩)
      | _, _ => .dateTime none := by
  unfold sysDateTime
  split
  · next d t =>
    have := h d rfl
    rw [if_neg (by omega)]
  · next h' =>
    split
    · next d t => exact absurd rfl (h' d t rfl)
    · rfl

end Uhppote.Proofs.ResultMap
