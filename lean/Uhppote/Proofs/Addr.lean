import Uhppote.Model.Addr
import Uhppote.Proofs.Digits
/-! Lemmas for C15: canonical dotted-quad text passes the regex gates and is read back by the
    netip model. -/
namespace Uhppote.Proofs.Addr
open Uhppote.Model.Addr Uhppote.Proofs.Digits

/-- the branches of `dec`: it prints a `w`-digit numeral, wide enough for `n` below
    100000 (from there on the five low digits) -/
theorem dec_digits (n : Nat) :
    ∃ w, 1 ≤ w ∧ w ≤ 5 ∧ (n < 1000 → w ≤ 3) ∧ (n < 100000 → n < 10 ^ w) ∧ dec n = digits w n := by
  by_cases h1 : n < 10
  · exact ⟨1, by decide, by decide, by omega, fun _ => h1, by simp only [dec, if_pos h1]; rfl⟩
  by_cases h2 : n < 100
  · exact ⟨2, by decide, by decide, by omega, fun _ => h2, by simp only [dec, if_pos h2, if_neg h1]; rfl⟩
  by_cases h3 : n < 1000
  · exact ⟨3, by decide, by decide, by omega, fun _ => h3, by
      simp only [dec, if_pos h3, if_neg h1, if_neg h2, digits, Nat.div_div_eq_div_mul]; rfl⟩
  by_cases h4 : n < 10000
  · exact ⟨4, by decide, by decide, by omega, fun _ => h4, by
      simp only [dec, if_pos h4, if_neg h1, if_neg h2, if_neg h3, digits, Nat.div_div_eq_div_mul]; rfl⟩
  · exact ⟨5, by decide, by decide, by omega, fun h => h, by
      simp only [dec, if_neg h1, if_neg h2, if_neg h3, if_neg h4, digits, Nat.div_div_eq_div_mul]; rfl⟩

theorem dec_all_dig (n : Nat) : (dec n).all isDig = true := by
  obtain ⟨w, _, _, _, _, e⟩ := dec_digits n
  rw [e]; exact all_digits w n

theorem dec_length (n : Nat) : 1 ≤ (dec n).length ∧ (dec n).length ≤ 5 ∧ (n < 1000 → (dec n).length ≤ 3) := by
  obtain ⟨w, h1, h5, h3, _, e⟩ := dec_digits n
  rw [e, length_digits]; exact ⟨h1, h5, h3⟩

theorem dec_isEmpty (n : Nat) : (dec n).isEmpty = false := by
  cases h : dec n with
  | nil => have := (dec_length n).1; simp [h] at this
  | cons _ _ => rfl

theorem decVal_dec (n : Nat) (h : n < 100000) : decVal (dec n) = n := by
  obtain ⟨w, _, _, _, hw, e⟩ := dec_digits n
  rw [e]; exact (val_digits w n).trans (Nat.mod_eq_of_lt (hw h))

theorem digit_ne_zero (k : Nat) (h : k % 10 ≠ 0) : Char.ofNat (48 + k % 10) ≠ '0' :=
  fun e => h ((digit_facts _ (Nat.mod_lt k (by decide))).2.2.1 e)

theorem dec_head (n : Nat) (h0 : 0 < n) (h : n < 100000) : (dec n).head? ≠ some '0' := by
  unfold dec
  split
  · exact fun e => digit_ne_zero _ (by omega) (Option.some.inj e)
  split
  · exact fun e => digit_ne_zero _ (by omega) (Option.some.inj e)
  split
  · exact fun e => digit_ne_zero _ (by omega) (Option.some.inj e)
  split
  · exact fun e => digit_ne_zero _ (by omega) (Option.some.inj e)
  · exact fun e => digit_ne_zero _ (by omega) (Option.some.inj e)

theorem digitRun_all (ds : List Char) (hd : ds.all isDig = true) : ∀ rest, (∀ c r, rest = c :: r → isDig c = false) →
    digitRun (ds ++ rest) = (ds, rest) := by
  induction ds with
  | nil =>
    intro rest hr
    cases rest with
    | nil => rfl
    | cons c r => simp [digitRun, hr c r rfl]
  | cons d ds ih =>
    intro rest hr
    simp only [List.all_cons, Bool.and_eq_true] at hd
    simp [digitRun, hd.1, ih hd.2 rest hr]

/-- netip reads one octet of canonical text back -/
theorem octet_dec (a : Nat) (ha : a < 256) (rest : List Char) (hr : ∀ c r, rest = c :: r → isDig c = false) :
    octet (dec a ++ rest) = some (a, rest) := by
  have hz : ¬ ((dec a).length > 1 ∧ (dec a).head? = some '0') := by
    intro ⟨h1, h2⟩
    by_cases h0 : a = 0
    · subst h0; exact absurd h1 (by decide)
    · exact dec_head a (by omega) (by omega) h2
  unfold octet
  rw [digitRun_all (dec a) (dec_all_dig a) rest hr]
  simp only [dec_isEmpty, Bool.false_eq_true, if_false, hz, decVal_dec a (by omega), show ¬ a > 255 by omega]

theorem parseV4_show (a b c d : Nat) (ha : a < 256) (hb : b < 256) (hc : c < 256) (hd : d < 256) :
    parseV4 (showQuad a b c d) = some (a, b, c, d) := by
  unfold parseV4 showQuad
  simp only [List.append_assoc, List.cons_append]
  have dot : ∀ (t : List Char) c r, ('.' :: t) = c :: r → isDig c = false := by
    intro t c r h; injection h with h1 _; subst h1; decide
  rw [octet_dec a ha _ (dot _)]
  simp only
  rw [octet_dec b hb _ (dot _)]
  simp only
  rw [octet_dec c hc _ (dot _)]
  simp only
  have := octet_dec d hd [] (by intro c r h; cases h)
  rw [List.append_nil] at this
  rw [this]

/-- the `[0-9]{1,n}` step can consume exactly the canonical digits -/
theorem digits1to_mem (ds rest : List Char) (hd : ds.all isDig = true) (h1 : 1 ≤ ds.length) :
    ∀ n, ds.length ≤ n → rest ∈ digits1to n (ds ++ rest) := by
  induction ds with
  | nil => simp at h1
  | cons c r ih =>
    intro n hn
    simp only [List.all_cons, Bool.and_eq_true] at hd
    cases n with
    | zero => simp at hn
    | succ m =>
      simp only [List.cons_append, digits1to, hd.1, if_true]
      cases r with
      | nil => simp
      | cons c' r' =>
        right
        exact ih hd.2 (by simp) m (by simp at hn ⊢; omega)

theorem lit_mem (ch : Char) (r : List Char) : r ∈ lit ch (ch :: r) := by simp [lit]

theorem quadAt_show (a b c d : Nat) (ha : a < 256) (hb : b < 256) (hc : c < 256) (hd : d < 256) (rest : List Char) :
    rest ∈ quadAt (showQuad a b c d ++ rest) := by
  unfold quadAt showQuad
  simp only [List.mem_flatMap, List.append_assoc, List.cons_append]
  have l := fun n (h : n < 256) => (dec_length n).2.2 (by omega)
  refine ⟨_, digits1to_mem (dec a) _ (dec_all_dig a) (dec_length a).1 3 (l a ha), _, lit_mem '.' _,
    _, digits1to_mem (dec b) _ (dec_all_dig b) (dec_length b).1 3 (l b hb), _, lit_mem '.' _,
    _, digits1to_mem (dec c) _ (dec_all_dig c) (dec_length c).1 3 (l c hc), _, lit_mem '.' _, ?_⟩
  exact digits1to_mem (dec d) rest (dec_all_dig d) (dec_length d).1 3 (l d hd)

/-- an unanchored search succeeds iff the pattern matches at the start of some suffix -/
theorem search_iff (p : List Char → List (List Char)) : ∀ s, search p s = true ↔ ∃ t, t <:+ s ∧ p t ≠ []
  | [] => by simp [search]
  | c :: r => by
    rw [search, Bool.or_eq_true, search_iff p r]
    simp only [List.suffix_cons_iff, Bool.not_eq_true', List.isEmpty_eq_false_iff]
    constructor
    · rintro (h | ⟨t, ht, hp⟩)
      · exact ⟨_, Or.inl rfl, h⟩
      · exact ⟨t, Or.inr ht, hp⟩
    · rintro ⟨t, rfl | ht, hp⟩
      · exact Or.inl hp
      · exact Or.inr ⟨t, ht, hp⟩

theorem search_of_head (p : List Char → List (List Char)) {s r : List Char} (h : r ∈ p s) : search p s = true :=
  (search_iff p s).2 ⟨s, List.suffix_refl s, List.ne_nil_of_mem h⟩

theorem hasQuad_show (a b c d : Nat) (ha : a < 256) (hb : b < 256) (hc : c < 256) (hd : d < 256) :
    hasQuad (showQuad a b c d) = true :=
  search_of_head _ (List.append_nil _ ▸ quadAt_show a b c d ha hb hc hd [])

theorem hasQuadPort_show (a b c d p : Nat) (ha : a < 256) (hb : b < 256) (hc : c < 256) (hd : d < 256) :
    hasQuadPort (showQuad a b c d ++ ':' :: dec p) = true := by
  have h2 := digits1to_mem (dec p) [] (dec_all_dig p) (dec_length p).1 5 (dec_length p).2.1
  rw [List.append_nil] at h2
  refine search_of_head quadPortAt (r := []) ?_
  unfold quadPortAt
  simp only [List.mem_flatMap]
  exact ⟨_, quadAt_show a b c d ha hb hc hd _, _, lit_mem ':' _, h2⟩

theorem lit_colon_none (s : List Char) (h : ':' ∉ s) : lit ':' s = [] := by
  cases s with
  | nil => rfl
  | cons c r =>
    simp only [lit]
    have : c ≠ ':' := by intro hc; subst hc; simp at h
    simp [this]

theorem digits1to_suffix : ∀ (n : Nat) (s r : List Char), r ∈ digits1to n s → r <:+ s
  | 0, _, _, h => by simp [digits1to] at h
  | n + 1, [], _, h => by simp [digits1to] at h
  | n + 1, c :: t, r, h => by
    simp only [digits1to] at h
    split at h
    · rcases List.mem_cons.1 h with rfl | h'
      · exact List.suffix_cons _ _
      · exact (digits1to_suffix n t r h').trans (List.suffix_cons _ _)
    · simp at h

theorem lit_suffix (ch : Char) (s r : List Char) (h : r ∈ lit ch s) : r <:+ s := by
  cases s with
  | nil => simp [lit] at h
  | cons c t =>
    simp only [lit] at h
    split at h
    · simp at h; subst h; exact List.suffix_cons _ _
    · simp at h

theorem quadAt_suffix (s r : List Char) (h : r ∈ quadAt s) : r <:+ s := by
  unfold quadAt at h
  simp only [List.mem_flatMap] at h
  obtain ⟨r1, h1, r2, h2, r3, h3, r4, h4, r5, h5, r6, h6, h7⟩ := h
  exact (digits1to_suffix _ _ _ h7).trans <| (lit_suffix _ _ _ h6).trans <| (digits1to_suffix _ _ _ h5).trans <|
    (lit_suffix _ _ _ h4).trans <| (digits1to_suffix _ _ _ h3).trans <| (lit_suffix _ _ _ h2).trans (digits1to_suffix _ _ _ h1)

theorem quadPortAt_nil_of_no_colon (s : List Char) (h : ':' ∉ s) : quadPortAt s = [] := by
  unfold quadPortAt
  rw [List.flatMap_eq_nil_iff]
  intro r hr
  rw [lit_colon_none r fun hc => h ((quadAt_suffix s r hr).subset hc)]; rfl

theorem hasQuadPort_no_colon (s : List Char) (h : ':' ∉ s) : hasQuadPort s = false := by
  rw [hasQuadPort, ← Bool.not_eq_true, search_iff]
  exact fun ⟨t, ht, hp⟩ => hp (quadPortAt_nil_of_no_colon t fun hc => h (ht.subset hc))

theorem quadPortAt_quadAt (s : List Char) (h : quadPortAt s ≠ []) : quadAt s ≠ [] := by
  intro hq; apply h; unfold quadPortAt; rw [hq]; rfl

theorem hasQuad_of_hasQuadPort (s : List Char) (h : hasQuadPort s = true) : hasQuad s = true :=
  let ⟨t, ht, hp⟩ := (search_iff _ s).1 h
  (search_iff _ s).2 ⟨t, ht, quadPortAt_quadAt t hp⟩

theorem parsePort_dec (p : Nat) (hp : p < 65536) : parsePort (dec p) = some p := by
  by_cases h0 : p = 0
  · subst h0; decide
  have hl := (dec_length p).2.1
  have hv := decVal_dec p (by omega)
  have hh := dec_head p (by omega) (by omega)
  have ha := dec_all_dig p
  cases e : dec p with
  | nil => have := dec_isEmpty p; simp [e] at this
  | cons c r =>
    rw [e] at hl hv ha hh
    have hc : (c == '0') = false := by simpa using hh
    simp only [parsePort, List.isEmpty_cons, ha, List.dropWhile_cons, hc, hv, Bool.not_true, Bool.false_eq_true,
      or_self, if_false, show ¬ (c :: r).length > 5 by omega, show ¬ p > 65535 by omega]

theorem showQuad_chars (a b c d : Nat) : (showQuad a b c d).all (fun x => isDig x || x == '.') = true := by
  have h : ∀ n, (dec n).all (fun x => isDig x || x == '.') = true := fun n =>
    List.all_eq_true.2 fun x hx => by rw [List.all_eq_true.1 (dec_all_dig n) x hx]; rfl
  simp only [showQuad, List.all_append, List.all_cons, h]
  rfl

theorem plain_show (a b c d : Nat) : plain (showQuad a b c d) = true :=
  List.all_eq_true.2 fun x hx => by
    have := List.all_eq_true.1 (showQuad_chars a b c d) x hx
    simp only [Bool.or_eq_true] at this ⊢
    exact Or.inl this

theorem no_colon_show (a b c d : Nat) : ':' ∉ showQuad a b c d := fun hm =>
  absurd (List.all_eq_true.1 (showQuad_chars a b c d) _ hm) (by decide)

/-- `netip.ParseAddrPort` on `ip:port` text splits at the one colon -/
theorem netipAddrPort_split (s r : List Char) (hs : plain s = true) (hc : ':' ∉ s) (hr : r.all isDig = true)
    {a b c d p : Nat} (hq : parseV4 s = some (a, b, c, d)) (hp : parsePort r = some p) :
    netipAddrPort (s ++ ':' :: r) = .ok (a, b, c, d, p) := by
  have hcr : ':' ∉ r := fun hm => absurd (List.all_eq_true.1 hr _ hm) (by decide)
  have hne : ∀ {l : List Char}, ':' ∉ l → ∀ x ∈ l, (x != ':') = true := fun h x hx => by
    simpa using fun (e : x = ':') => h (e ▸ hx)
  have hplain : plain (s ++ ':' :: r) = true := by
    unfold plain at hs ⊢
    rw [List.all_append, hs, List.all_cons]
    exact List.all_eq_true.2 fun x hx => by rw [List.all_eq_true.1 hr x hx]; rfl
  have hcount : ((s ++ ':' :: r).filter (· == ':')).length = 1 := by
    rw [List.filter_append, List.filter_cons_of_pos (by rfl),
      List.filter_eq_nil_iff.2 fun x hx => by simpa using fun (e : x = ':') => hc (e ▸ hx),
      List.filter_eq_nil_iff.2 fun x hx => by simpa using fun (e : x = ':') => hcr (e ▸ hx)]
    rfl
  unfold netipAddrPort
  simp only [hplain, hcount, Bool.not_true, Bool.false_eq_true, ne_eq, not_true_eq_false, or_self, if_false,
    List.takeWhile_append_of_pos (hne hc), List.dropWhile_append_of_pos (hne hc), List.takeWhile_cons, List.dropWhile_cons,
    bne_self_eq_false, List.append_nil, List.drop_one, List.tail_cons, hq, hp]

/-- `netip.ParseAddr` on text without a colon -/
theorem netipAddr_plain (s : List Char) (hs : plain s = true) (hc : ':' ∉ s) {q : Nat × Nat × Nat × Nat}
    (hq : parseV4 s = some q) : netipAddr s = .ok q := by
  have hany : s.any (· == ':') = false :=
    List.any_eq_false.2 fun x hx => by simpa using fun (e : x = ':') => hc (e ▸ hx)
  simp only [netipAddr, hs, hany, Bool.not_true, Bool.false_eq_true, or_self, if_false, hq]

end Uhppote.Proofs.Addr
