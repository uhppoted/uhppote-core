import Uhppote.Proofs.CodecEnc
/-! The five shapes of a leaf, what the codec and the specification do on each, and the walk over a layout:
    with the error of an embedded struct returned, `unmarshalFields` is `unmarshalLeaves` of the layout's leaves. -/
namespace Uhppote.Proofs.Codec
open Uhppote.Model Uhppote.Spec.Codec

/-- a field that is not a fixed byte: the codec ignores its `value:` tag, if it has one -/
def Plain (k : Kind) (tag : Option String) : Prop := k ≠ .u8 ∨ tag = none

/-- case analysis on a leaf by what the codec does with it: nothing, the protocol id, the function code, a byte
    fixed by its `value:` tag, a field of its kind -/
theorem leafCases {motive : Leaf → Prop} (skip : motive .skip) (som : ∀ t, motive (.som t))
    (msgType : ∀ t, motive (.msgType t)) (fixed : ∀ off t, motive (.at off .u8 (some t)))
    (plain : ∀ off k tag, Plain k tag → motive (.at off k tag)) : ∀ l, motive l
  | .skip => skip
  | .som t => som t
  | .msgType t => msgType t
  | .at off .u8 (some t) => fixed off t
  | .at off .u8 none => plain off .u8 none (Or.inr rfl)
  | .at off .u16 tag | .at off .u32 tag | .at off .bool tag | .at off .ipv4 tag | .at off .addrPort tag
  | .at off .mac tag | .at off .serial tag | .at off .date tag | .at off .datePtr tag | .at off .dateTime tag
  | .at off .dateTimePtr tag | .at off .sysDate tag | .at off .sysTime tag | .at off .hhmm tag | .at off .hhmmPtr tag
  | .at off .pin tag | .at off .version tag | .at off .macAddress tag => plain off _ tag (Or.inl (by simp))

section plain
variable {k : Kind} {tag : Option String} (hk : Plain k tag)
include hk

theorem leafWire_plain (off : Nat) (v : Val) : leafWire (.at off k tag) v = (wire k v).map fun b => (off, b) := by
  cases tag with
  | none => cases k <;> rfl
  | some t => cases k <;> first | rfl | (cases hk <;> contradiction)

theorem backLeaf_plain (off : Nat) (v : Val) : backLeaf (.at off k tag) v = back k v := by
  cases tag with
  | none => cases k <;> rfl
  | some t => cases k <;> first | rfl | (cases hk <;> contradiction)

theorem read_plain (b : Bytes) : Spec.Codec.read k tag b = Spec.Codec.read k none b := by
  cases tag with
  | none => rfl
  | some t =>
    -- `read` looks at the tag in its `.u8` arm only, which `Plain` excludes
    unfold Spec.Codec.read
    split <;> first | rfl | (cases hk <;> contradiction)

theorem unmarshalLeaf_plain (T : BCD.Tables) (B : HHmmBounds) (bytes : Bytes) (off : Nat) :
    unmarshalLeaf goodFacts T B bytes (.at off k tag) =
      if off + k.width ≤ bytes.length then decField goodFacts T B k (readAt bytes off k.width) else .panic := by
  have hfix : fixedValue goodFacts k tag = some none := by
    cases tag with
    | none => cases k <;> rfl
    | some t => cases k <;> first | rfl | (cases hk <;> contradiction)
  have hrw : readWidth goodFacts k = k.width := by cases k <;> rfl
  simp only [unmarshalLeaf, hfix, hrw, Nat.le_refl, and_true]

end plain

/-- the range the leaf owns, if it owns one, lies inside the 64 bytes of a message -/
def InMessage (l : Leaf) : Prop := ∀ o w, extent l = some (o, w) → o + w ≤ 64

/-- what `wf` says, leaf by leaf -/
theorem wf_iff (ls : List Leaf) : wf ls = true ↔
    (∀ l ∈ ls, InMessage l) ∧ rangesDisjoint (ls.filterMap extent) = true ∧
    (∀ l ∈ ls, tagsOk l = true) ∧ (∀ l ∈ ls, fieldsFrom2 l = true) := by
  simp only [wf, Bool.and_eq_true, List.all_eq_true, List.mem_filterMap, decide_eq_true_eq, and_assoc]
  refine and_congr_left' ⟨fun h l hl o w he => h (o, w) ⟨l, hl, he⟩, ?_⟩
  rintro h ⟨o, w⟩ ⟨l, hl, he⟩
  exact h l hl o w he

/-! ### `value:` tags: on the grammar of the specification Go's base-0 `ParseUint` reads the number the tag denotes
    (`parseUint8_of_tagValue`) -/

theorem tagValue_lt (t : String) (n : Nat) (h : tagValue t = some n) : n < 256 :=
  parseUint8_lt (parseUint8_of_tagValue t n h)

section tagged
variable {t : String} {n : Nat} (h : tagValue t = some n) (T : BCD.Tables)
include h

/-! a tagged protocol id, function code or fixed byte is written from its tag, whatever the value -/

theorem marshalLeaf_som (buf : Bytes) (v : Val) :
    marshalLeaf goodFacts T buf (.som (some t)) v = setAt buf 0 (UInt8.ofNat n) := by
  simp only [marshalLeaf, goodFacts, parseUint8_of_tagValue t n h]

theorem marshalLeaf_msgType (buf : Bytes) (v : Val) :
    marshalLeaf goodFacts T buf (.msgType (some t)) v = setAt buf 1 (UInt8.ofNat n) := by
  simp only [marshalLeaf, goodFacts, parseUint8_of_tagValue t n h]

theorem marshalLeaf_fixed (buf : Bytes) (v : Val) (off : Nat) :
    marshalLeaf goodFacts T buf (.at off .u8 (some t)) v = setAt buf off (UInt8.ofNat n) := by
  simp only [marshalLeaf, goodFacts, parseUint8_of_tagValue t n h, Kind.isMarshaler, Bool.false_eq_true, if_false]

theorem unmarshalLeaf_msgType (B : HHmmBounds) (bytes : Bytes) :
    unmarshalLeaf goodFacts T B bytes (.msgType (some t)) =
      if (bytes.getD 1 0).toNat ≠ n then .err else .ok (.u8 (bytes.getD 1 0)) := by
  simp only [unmarshalLeaf, goodFacts, parseUint8_of_tagValue t n h]

theorem unmarshalLeaf_fixed (B : HHmmBounds) (bytes : Bytes) (off : Nat) :
    unmarshalLeaf goodFacts T B bytes (.at off .u8 (some t)) =
      if off + 1 ≤ bytes.length then
        (if (bytes.getD off 0).toNat ≠ n then .err else .ok (.u8 (bytes.getD off 0)))
      else .panic := by
  simp only [unmarshalLeaf, fixedValue, goodFacts, parseUint8_of_tagValue t n h, readWidth, Kind.width, Nat.le_refl, and_true]

end tagged

section walk
variable (F : CodecFacts) (T : BCD.Tables) (B : HHmmBounds) (bytes : Bytes)

theorem unmarshalLeaves_append : ∀ a b : List Leaf,
    unmarshalLeaves F T B bytes (a ++ b) =
      match unmarshalLeaves F T B bytes a with
      | (va, .ok ()) => (va ++ (unmarshalLeaves F T B bytes b).1, (unmarshalLeaves F T B bytes b).2)
      | (va, .err) => (va ++ b.map zeroVal, .err)
      | (va, .panic) => (va ++ b.map zeroVal, .panic)
  | [], b => rfl
  | l :: a, b => by
    simp only [List.cons_append, unmarshalLeaves, unmarshalLeaves_append a b]
    cases unmarshalLeaf F T B bytes l with
    | ok v => rcases unmarshalLeaves F T B bytes a with ⟨va, _ | _ | _⟩ <;> rfl
    | err => simp
    | panic => simp

/-- with the error of an embedded struct returned (a regenerated fact), walking the fields is walking the leaves -/
theorem unmarshalFields_eq_leaves (hF : F.embeddedErrorReturned = true) : ∀ fs : List Field,
    unmarshalFields F T B bytes fs = unmarshalLeaves F T B bytes (Layout.leaves fs)
  | [] => rfl
  | .leaf _ l :: fs => by
    simp only [unmarshalFields, unmarshalFields_eq_leaves hF fs]
    rfl
  | .embed _ ls :: fs => by
    show _ = unmarshalLeaves F T B bytes (ls.map (·.2) ++ Layout.leaves fs)
    simp only [unmarshalFields, unmarshalLeaves_append, unmarshalFields_eq_leaves hF fs, hF, if_true]
    rcases unmarshalLeaves F T B bytes (ls.map (·.2)) with ⟨va, _ | _ | _⟩ <;> rfl

end walk

end Uhppote.Proofs.Codec
