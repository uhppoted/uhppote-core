import Uhppote.Proofs.CodecPieces
import Uhppote.Proofs.CodecRel
/-! Decoding the image of a well-formed layout returns the encoded values (`Spec.Codec.backAll`). The decoder stays
    inside the decoding relation on every byte string (`rel_leaf`), and the specification reads its own image back:
    reading a field's range out of the position-wise image gives the field's wire bytes padded with zeros, and
    `Spec.Codec.read` of those is the value (`expect_read_wire`). -/
namespace Uhppote.Proofs.Codec
open Uhppote.Model Uhppote.Spec.Codec

/-- no piece of `qs` covers a position of the range `[o, o+w)` -/
def Clear (qs : List Piece) (o w : Nat) : Prop := ∀ q ∈ qs, ∀ i, o ≤ i → i < o + w → covers i q = false

/-- (`1 ≤ o`: an uncovered position 0 holds the preset 0x17, every other one 0) -/
theorem imageByte_split (pre post : List Piece) (p : Piece) (o w i : Nat)
    (hpre : Clear pre o w) (hpost : Clear post o w) (hi1 : o ≤ i) (hi2 : i < o + w) (ho : p.1 = o) (h1 : 1 ≤ o) :
    imageByte (pre ++ p :: post) i = if i < o + p.2.length then p.2.getD (i - o) 0 else 0 := by
  rw [imageByte_eq, List.find?_append]
  have h1' : pre.find? (covers i) = none := by
    rw [List.find?_eq_none]; intro q hq; simp [hpre q hq i hi1 hi2]
  have h2' : post.find? (covers i) = none := by
    rw [List.find?_eq_none]; intro q hq; simp [hpost q hq i hi1 hi2]
  rw [h1', Option.none_or, List.find?_cons]
  by_cases hc : i < o + p.2.length
  · have : covers i p = true := covers_iff.2 ⟨by omega, by omega⟩
    simp [this, hc, ho]
  · have : covers i p = false := covers_eq_false_iff.2 (by omega)
    have hi0 : i ≠ 0 := by omega
    simp [this, hc, h2', hi0]

theorem readAt_imageOf (pre post : List Piece) (p : Piece) (o w : Nat)
    (hpre : Clear pre o w) (hpost : Clear post o w) (ho : p.1 = o) (hl : p.2.length ≤ w) (h1 : 1 ≤ o)
    (hfit : o + w ≤ 64) :
    readAt (imageOf (pre ++ p :: post)) o w = p.2 ++ zeros (w - p.2.length) := by
  apply List.ext_getElem?
  intro i
  rw [getElem?_readAt]
  by_cases hi : i < w
  · rw [if_pos hi, imageOf_get _ _ (by omega),
      imageByte_split pre post p o w (o + i) hpre hpost (by omega) (by omega) ho h1]
    by_cases hc : i < p.2.length
    · rw [if_pos (Nat.add_lt_add_left hc o), List.getElem?_append_left hc, List.getD_eq_getElem?_getD,
        Nat.add_sub_cancel_left, List.getElem?_eq_getElem hc]; rfl
    · rw [if_neg (fun h => hc (Nat.lt_of_add_lt_add_left h)), List.getElem?_append_right (Nat.le_of_not_lt hc)]
      simp [zeros, List.getElem?_replicate]; omega
  · rw [if_neg hi, List.getElem?_eq_none]
    simp; omega

theorem getD_imageOf_split (pre post : List Piece) (o : Nat) (x : UInt8)
    (hpre : Clear pre o 1) (hpost : Clear post o 1) (h1 : 1 ≤ o) (hfit : o + 1 ≤ 64) :
    (imageOf (pre ++ (o, [x]) :: post)).getD o 0 = x := by
  rw [getD_imageOf _ _ (by omega), imageByte_split pre post (o, [x]) o 1 o hpre hpost (by omega) (by omega) rfl h1]
  simp

/-- the value the model returns where the specification allows several spellings: the first one listed -/
def expect : Read → Option Val
  | .exact x => some x
  | .noValue (x :: _) => some x
  | _ => none

theorem Rel.eq_ok {o : Outcome Val} {r : Read} {w : Val} (h : Rel o r) (he : expect r = some w) : o = .ok w := by
  -- `expect` is defined on `.exact x` and on a non-empty `.noValue` only; there `Rel` admits nothing but `.ok` of that value
  cases r with
  | exact x =>
    cases he
    cases o with
    | ok v => exact congrArg Outcome.ok h
    | err | panic => exact False.elim h
  | noValue xs =>
    cases xs with
    | nil => cases he
    | cons x xs' =>
      cases he
      cases o with
      | ok v => exact congrArg Outcome.ok (Option.some.inj h).symm
      | err | panic => exact False.elim h
  | invalid _ | mustFail => cases he

theorem unbcd2_bcd2 (n : Nat) (h : n < 100) : unbcd2 (bcd2 n) = n := by
  simp only [unbcd2, bcd2_toNat]; omega

theorem eq_unbcd2_of_bcd2 {n : Nat} (h : n < 100) {x : UInt8} (hx : bcd2 n = x) : n = unbcd2 x := by
  rw [← hx, unbcd2_bcd2 n h]

theorem readDate_bcdDate (d : YMD) (h : dateInDomain d = true) : readDate (bcdDate d) = some (some d) := by
  simp only [dateInDomain, Bool.and_eq_true, decide_eq_true_eq, Bool.not_eq_true'] at h
  obtain ⟨⟨⟨hv, hy1⟩, hy2⟩, hne⟩ := h
  obtain ⟨hm1, hm, hd⟩ := validDate_bounds d hv
  have hs : ¬ (bcdDate d = [0, 0, 0, 0] ∨ bcdDate d = [0, 1, 1, 1]) := by
    simp only [bcdDate, List.cons.injEq, and_true]
    rintro (⟨_, _, c, _⟩ | ⟨a, b, c, e⟩)
    · -- the zero sentinel: the month would be 0
      have : d.m = 0 := eq_unbcd2_of_bcd2 hm c
      omega
    · -- 0001-01-01, byte by byte: excluded from the domain
      have hc : d.y / 100 = 0 := eq_unbcd2_of_bcd2 (by omega) a
      have hy : d.y % 100 = 1 := eq_unbcd2_of_bcd2 (by omega) b
      have hmo : d.m = 1 := eq_unbcd2_of_bcd2 hm c
      have hdd : d.d = 1 := eq_unbcd2_of_bcd2 hd e
      have hy' : d.y = 1 := by omega
      simp [hy', hmo, hdd] at hne
  have ey : d.y / 100 * 100 + d.y % 100 = d.y := by omega
  simp only [readDate, bcdDate, List.all_cons, List.all_nil, nibblesOk_bcd2, Bool.and_self, Bool.not_true,
    Bool.false_eq_true, if_false] at hs ⊢
  simp only [hs, if_false, unbcd2_bcd2 (d.y / 100) (by omega), unbcd2_bcd2 (d.y % 100) (by omega), unbcd2_bcd2 _ hm,
    unbcd2_bcd2 _ hd, ey, hv, if_true]

theorem readDateTime_bcdDateTime (d : YMDHMS) (h : dateTimeInDomain d = true) :
    readDateTime (bcdDateTime d) = some (some d) := by
  simp only [dateTimeInDomain, Bool.and_eq_true, decide_eq_true_eq, Bool.not_eq_true'] at h
  obtain ⟨⟨⟨⟨⟨⟨hv, hy1⟩, hy2⟩, hh⟩, hmi⟩, hs⟩, hne⟩ := h
  obtain ⟨hm1, hm, hd⟩ := validDate_bounds ⟨d.y, d.mo, d.d⟩ hv
  simp only at hm1 hm hd
  have hsent : ¬ (bcdDateTime d = [0, 0, 0, 0, 0, 0, 0] ∨ bcdDateTime d = [0, 1, 1, 1, 0, 0, 0]) := by
    simp only [bcdDateTime, List.cons.injEq, and_true]
    rintro (⟨_, _, c, _⟩ | ⟨a1, a2, a3, a4, a5, a6, a7⟩)
    · -- the zero sentinel: the month would be 0
      have : d.mo = 0 := eq_unbcd2_of_bcd2 hm c
      omega
    · -- 0001-01-01 00:00:00, byte by byte: excluded from the domain
      have hc : d.y / 100 = 0 := eq_unbcd2_of_bcd2 (by omega) a1
      have hy : d.y % 100 = 1 := eq_unbcd2_of_bcd2 (by omega) a2
      have hmo : d.mo = 1 := eq_unbcd2_of_bcd2 hm a3
      have hdd : d.d = 1 := eq_unbcd2_of_bcd2 hd a4
      have hh0 : d.h = 0 := eq_unbcd2_of_bcd2 (by omega) a5
      have hmi0 : d.mi = 0 := eq_unbcd2_of_bcd2 (by omega) a6
      have hs0 : d.s = 0 := eq_unbcd2_of_bcd2 (by omega) a7
      have hy' : d.y = 1 := by omega
      simp [hy', hmo, hdd, hh0, hmi0, hs0] at hne
  have ey : d.y / 100 * 100 + d.y % 100 = d.y := by omega
  simp only [readDateTime, bcdDateTime, List.all_cons, List.all_nil, nibblesOk_bcd2, Bool.and_self, Bool.not_true,
    Bool.false_eq_true, if_false] at hsent ⊢
  simp only [hsent, if_false, unbcd2_bcd2 (d.y / 100) (by omega), unbcd2_bcd2 (d.y % 100) (by omega),
    unbcd2_bcd2 _ hm, unbcd2_bcd2 _ hd, unbcd2_bcd2 d.h (by omega), unbcd2_bcd2 d.mi (by omega),
    unbcd2_bcd2 d.s (by omega), ey, hv, hh, hmi, hs, decide_true, Bool.and_self, if_true]

theorem read_hhmm_bcd (t : HM) (h : hhmmInDomain t = true) :
    Spec.Codec.read .hhmm none [bcd2 t.h.toNat, bcd2 t.m.toNat] = .exact (.hhmm t) ∧
    Spec.Codec.read .hhmmPtr none [bcd2 t.h.toNat, bcd2 t.m.toNat] = .exact (.hhmmPtr (some t)) := by
  have h' := h
  simp only [hhmmInDomain, Bool.and_eq_true, decide_eq_true_eq] at h'
  have e : (⟨unbcd2 (bcd2 t.h.toNat), unbcd2 (bcd2 t.m.toNat)⟩ : HM) = t := by
    rw [unbcd2_bcd2 _ (by omega), unbcd2_bcd2 _ (by omega), Int.toNat_of_nonneg h'.1.1.1.1, Int.toNat_of_nonneg h'.1.1.2]
  simp [Spec.Codec.read, nibblesOk_bcd2, e, h]

theorem length4 {b : Bytes} (h : b.length = 4) : ∃ x y z t, b = [x, y, z, t] := by
  match b, h with
  | [x, y, z, t], _ => exact ⟨x, y, z, t, rfl⟩

/-- reading the wire bytes of an in-domain value, padded with zeros to the width of its field, gives the value
    back (`Spec.Codec.back`) -/
theorem expect_read_wire {k : Kind} {v : Val} {b : Bytes} (hw : wire k v = some b) :
    expect (Spec.Codec.read k none (b ++ zeros (k.width - b.length))) = back k v := by
  cases Wire.of_wire hw with
  | u8 | datePtrNil | dateTimePtrNil | hhmmPtrNil | dateNone | datePtrNone | dateTimeNone | dateTimePtrNone => rfl
  | bool x => cases x <;> rfl
  -- the integers: the bytes are the base-256 digits of a number below the bound
  | u16 x h | u32 x h | serial x h | pin x h | version x h | addrPort _ _ _ _ x h =>
    simp [back, hw, Spec.Codec.read, expect, Kind.width, zeros]; omega
  -- four bytes, read back in Go's 16-byte form
  | ip4 bs h => obtain ⟨x, y, z, t, rfl⟩ := length4 h; rfl
  | ip16 bs h =>
    obtain ⟨x, y, z, t, hd⟩ := length4 (show (bs.drop 12).length = 4 by simp [h.1])
    simp only [back, hw, hd]
    rfl
  | mac bs h | macAddress bs h => simp [back, hw, h, Spec.Codec.read, expect, Kind.width, zeros]
  | date d h | datePtr d h =>
    have hl : (bcdDate d).length = 4 := rfl
    simp [back, hw, Spec.Codec.read, expect, Kind.width, hl, zeros, readDate_bcdDate d h]
  | dateTime d h | dateTimePtr d h =>
    have hl : (bcdDateTime d).length = 7 := rfl
    simp [back, hw, Spec.Codec.read, expect, Kind.width, hl, zeros, readDateTime_bcdDateTime d h]
  -- the two-digit year is read back through the pivot 69
  | sysDate d h =>
    have h' := h
    simp only [Bool.and_eq_true, decide_eq_true_eq] at h'
    obtain ⟨_, hm, hdd⟩ := validDate_bounds d h'.1.1
    have ey : (if unbcd2 (bcd2 (d.y % 100)) ≥ 69 then 1900 else 2000) + unbcd2 (bcd2 (d.y % 100)) = d.y := by
      rw [unbcd2_bcd2 _ (by omega)]; split <;> omega
    simp [back, hw, Spec.Codec.read, expect, Kind.width, zeros, nibblesOk_bcd2, ey, unbcd2_bcd2 _ hm,
      unbcd2_bcd2 _ hdd, h'.1.1]
  | sysTime t h =>
    have h' := h
    simp only [Bool.and_eq_true, decide_eq_true_eq] at h'
    simp [back, hw, Spec.Codec.read, expect, Kind.width, zeros, nibblesOk_bcd2, unbcd2_bcd2 t.h (by omega),
      unbcd2_bcd2 t.m (by omega), unbcd2_bcd2 t.s (by omega), h'.1.1, h'.1.2, h'.2]
  | hhmm t h => simp [back, hw, Kind.width, zeros, (read_hhmm_bcd t h).1, expect]
  | hhmmPtr t h => simp [back, hw, Kind.width, zeros, (read_hhmm_bcd t h).2, expect]

theorem expect_readLeaf_image (pre post : List Piece) (l : Leaf) (v : Val) (p : Piece)
    (hlw : leafWire l v = some p)
    (hext : ∀ o wd, extent l = some (o, wd) → Clear pre o wd ∧ Clear post o wd ∧ o + wd ≤ 64)
    (h2 : fieldsFrom2 l = true) :
    expect (readLeaf (imageOf (pre ++ p :: post)) l) = backLeaf l v := by
  -- the byte of a tagged header or fixed-byte field, read back out of the image, is the tag's value
  have tagged : ∀ (o : Nat) (t : String) (n : Nat), tagValue t = some n → extent l = some (o, 1) → 1 ≤ o →
      p = (o, [UInt8.ofNat n]) → (imageOf (pre ++ p :: post)).getD o 0 = UInt8.ofNat n ∧
        (UInt8.ofNat n).toNat = n := by
    intro o t n hn he ho hp
    obtain ⟨hc1, hc2, hfit⟩ := hext o 1 he
    subst hp
    exact ⟨getD_imageOf_split pre post o _ hc1 hc2 ho hfit, UInt8.toNat_ofNat_of_lt' (tagValue_lt t n hn)⟩
  cases l using leafCases with
  | skip => rfl
  | som t => rfl
  | msgType t =>
    cases t with
    | none =>
      cases v <;> simp only [leafWire] at hlw <;> (try cases hlw)
      rename_i x
      obtain ⟨hc1, hc2, hfit⟩ := hext 1 1 rfl
      simp only [readLeaf, getD_imageOf_split pre post 1 x hc1 hc2 (by omega) hfit, backLeaf]
      split <;> rfl
    | some t =>
      simp only [leafWire, Option.map_eq_some_iff] at hlw
      obtain ⟨n, hn, hp⟩ := hlw
      obtain ⟨h1, h2⟩ := tagged 1 t n hn rfl (by omega) hp.symm
      simp only [readLeaf, hn, h1, if_true, h2, backLeaf, expect, Option.map_some]
  | fixed off t =>
    simp only [leafWire, Option.map_eq_some_iff] at hlw
    obtain ⟨n, hn, hp⟩ := hlw
    have hoff : 2 ≤ off := by simpa [fieldsFrom2] using h2
    obtain ⟨h1, h2⟩ := tagged off t n hn rfl (by omega) hp.symm
    have hlt : off < (imageOf (pre ++ p :: post)).length := by
      rw [length_imageOf]; have := (hext off 1 rfl).2.2; omega
    simp only [readLeaf, Kind.width, readAt_one _ off hlt, Spec.Codec.read, hn, h1, if_true, h2, backLeaf, expect,
      Option.map_some]
  | plain off k tag hk =>
    obtain ⟨hc1, hc2, hfit⟩ := hext off k.width rfl
    have hoff : 2 ≤ off := by simpa [fieldsFrom2] using h2
    rw [leafWire_plain hk, Option.map_eq_some_iff] at hlw
    obtain ⟨b, hw, rfl⟩ := hlw
    rw [readLeaf, read_plain hk, backLeaf_plain hk,
      readAt_imageOf pre post (off, b) off k.width hc1 hc2 rfl (Wire.of_wire hw).length_le (by omega) hfit]
    exact expect_read_wire hw

/-- no piece of `qs` touches the range the leaf owns -/
def ClearL (qs : List Piece) (l : Leaf) : Prop := ∀ o w, extent l = some (o, w) → Clear qs o w

theorem clear_of_within (q : Piece) (lq lt : Leaf) (hq : within q lq) (hd : extDisj lt lq) : ClearL [q] lt := by
  intro o w he q' hq' i hi1 hi2
  simp only [List.mem_singleton] at hq'; subst hq'
  unfold extDisj at hd
  simp only [he] at hd
  rcases within_cases hq with ⟨_, rfl⟩ | ⟨o', w', he', h1, h2⟩
  · simp [covers]
  · simp only [he'] at hd
    rw [covers_eq_false_iff]
    omega

theorem ClearL_append (a b : List Piece) (l : Leaf) (ha : ClearL a l) (hb : ClearL b l) : ClearL (a ++ b) l := by
  intro o w he q hq
  rcases List.mem_append.1 hq with h | h
  · exact ha o w he q h
  · exact hb o w he q h

theorem ClearL_pieces (ls : List Leaf) (vs : List Val) (ps : List Piece) (h : pieces ls vs = some ps)
    (lt : Leaf) (hd : ∀ l' ∈ ls, extDisj lt l') : ClearL ps lt := by
  intro o w he q hq
  obtain ⟨l', hl', hwi⟩ := pieces_within h q hq
  exact clear_of_within q l' lt hwi (hd l' hl') o w he q (by simp)

/-- what the walk needs of a leaf it has not reached yet: none of the pieces already passed (`acc`) touches its
    range, and what `wf` says of it -/
structure Ahead (acc : List Piece) (l : Leaf) : Prop where
  acc : ClearL acc l
  tags : tagsOk l = true
  from2 : fieldsFrom2 l = true
  fit : InMessage l

theorem backAll_cons {l : Leaf} {ls : List Leaf} {v : Val} {vs ws : List Val}
    (h : backAll (l :: ls) (v :: vs) = some ws) :
    ∃ w ws', backLeaf l v = some w ∧ backAll ls vs = some ws' ∧ ws = w :: ws' := by
  simp only [backAll] at h
  cases hbl : backLeaf l v <;> cases hbr : backAll ls vs <;> simp only [hbl, hbr] at h <;> cases h
  exact ⟨_, _, rfl, rfl, rfl⟩

/-- decoding the image leaf by leaf; `acc` are the pieces of the leaves already walked -/
theorem unmarshalLeaves_image (ls : List Leaf) (vs : List Val) (ps : List Piece) (h : pieces ls vs = some ps) :
    ∀ (ws : List Val) (acc : List Piece), backAll ls vs = some ws → ls.Pairwise extDisj →
    (∀ l ∈ ls, Ahead acc l) →
    unmarshalLeaves goodFacts BCD.canonical B0 (imageOf (acc ++ ps)) ls = (ws, .ok ()) := by
  induction ls, vs, ps, h using pieces_induction with
  | nil => intro ws acc hb _ _; cases hb; rfl
  | cons l ls v vs p ps hw hr ih =>
    intro ws acc hb hpw hok
    obtain ⟨w, ws', hbl, hbr, rfl⟩ := backAll_cons hb
    have hl := hok l (by simp)
    obtain ⟨hhead, htail⟩ := List.pairwise_cons.1 hpw
    have hpost : ClearL ps l := ClearL_pieces ls vs ps hr l hhead
    have h1 : unmarshalLeaf goodFacts BCD.canonical B0 (imageOf (acc ++ p :: ps)) l = .ok w :=
      (rel_leaf _ (length_imageOf _) l hl.tags hl.fit).eq_ok
        ((expect_readLeaf_image acc ps l v p hw
          (fun o wd he => ⟨hl.acc o wd he, hpost o wd he, hl.fit o wd he⟩) hl.from2).trans hbl)
    have ih' := ih ws' (acc ++ [p]) hbr htail (fun l' hl' => by
      have hl'ok := hok l' (by simp [hl'])
      exact ⟨ClearL_append _ _ _ hl'ok.acc
        (clear_of_within p l l' (leafWire_within l v p hw) (extDisj_symm _ _ (hhead l' hl'))),
        hl'ok.tags, hl'ok.from2, hl'ok.fit⟩)
    rw [List.append_assoc, List.singleton_append] at ih'
    rw [unmarshalLeaves, h1, ih']

/-- **decode ∘ encode**: for every well-formed layout and all in-domain values, decoding the
    image returns the encoded values (up to the observational equalities of `Spec.Codec.back`) -/
theorem unmarshal_image (L : Layout) (vs ws : List Val) (img : Bytes)
    (hwf : wf L.leaves = true) (himg : image L.leaves vs = some img)
    (hback : backAll L.leaves vs = some ws) (hh : headerOk img = true) :
    unmarshal goodFacts BCD.canonical B0 L img = .ok ws := by
  rw [image_eq] at himg
  obtain ⟨ps, hps, rfl⟩ := Option.map_eq_some_iff.1 himg
  obtain ⟨hfit, hdis, htags, hfrom2⟩ := (wf_iff _).1 hwf
  have hleaves := unmarshalLeaves_image L.leaves vs ps hps ws [] hback (pairwise_extDisj _ hdis)
    (fun l hl => ⟨fun _ _ _ _ hq => by simp at hq, htags l hl, hfrom2 l hl, hfit l hl⟩)
  rw [List.nil_append] at hleaves
  rw [unmarshal_eq, if_pos hh, hleaves]

def notSom : Leaf → Bool
  | .som _ => false
  | _ => true

/-- the two header shapes of the shipped messages: no SOM field at all (byte 0 is the preset
    0x17), or `SOM value:0x19` followed by `MsgType value:0x20` (the v6.62 event) -/
def hdrShape (ls : List Leaf) : Bool :=
  ls.all notSom ||
  (match ls with
   | .som (some t0) :: .msgType (some t1) :: _ => tagValue t0 == some 0x19 && tagValue t1 == some 0x20
   | _ => false)

theorem headerOk_image (ls : List Leaf) (vs : List Val) (img : Bytes) (hwf : wf ls = true)
    (himg : image ls vs = some img) (hs : hdrShape ls = true) : headerOk img = true := by
  rw [image_eq] at himg
  obtain ⟨ps, hps, rfl⟩ := Option.map_eq_some_iff.1 himg
  simp only [headerOk, length_imageOf, beq_self_eq_true, Bool.true_and, Bool.or_eq_true, beq_iff_eq,
    Bool.and_eq_true, getD_imageOf ps 0 (by omega), getD_imageOf ps 1 (by omega), imageByte_eq]
  simp only [hdrShape, Bool.or_eq_true] at hs
  rcases hs with hs | hs
  · -- no SOM field: no piece covers position 0, which keeps the preset 0x17
    left
    have hnone : ps.find? (covers 0) = none := by
      rw [List.find?_eq_none]
      intro q hq
      obtain ⟨l, hl, hwi⟩ := pieces_within hps q hq
      have h2 := ((wf_iff _).1 hwf).2.2.2 l hl
      have hn := (List.all_eq_true.1 hs) l hl
      unfold within at hwi
      cases l with
      | skip => simp only [extent] at hwi; subst hwi; simp [covers]
      | som t => simp [notSom] at hn
      | msgType t => simp only [extent] at hwi; simp [covers, hwi.1]
      | «at» off k tag =>
        simp only [fieldsFrom2, decide_eq_true_eq] at h2
        simp [covers, hwi.1]; omega
    simp [hnone]
  · -- `SOM value:0x19` then `MsgType value:0x20`: the first two pieces are those two bytes
    right
    split at hs
    · simp only [Bool.and_eq_true, beq_iff_eq] at hs
      obtain ⟨v0, _, p0, _, rfl, hw0, hr0, rfl⟩ := pieces_cons_inv hps
      obtain ⟨v1, _, p1, _, rfl, hw1, _, rfl⟩ := pieces_cons_inv hr0
      simp only [leafWire, hs.1, hs.2, Option.map_some, Option.some.injEq] at hw0 hw1
      subst hw0 hw1
      simp [covers]
    · cases hs

/-! Not used by the proofs. -/

theorem zeros_zero : zeros 0 = [] := rfl

end Uhppote.Proofs.Codec
