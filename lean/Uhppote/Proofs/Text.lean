import Uhppote.Model.Text
import Uhppote.Proofs.Digits
/-! Lemmas for C14: parse ∘ format = id on the leaf text forms, and what a parser that accepted says of the value. -/
namespace Uhppote.Proofs.Text
open Uhppote.Model Uhppote.Model.Text Uhppote.Proofs.Digits

theorem dval_dig (k : Nat) : dval (Char.ofNat (48 + k % 10)) = k % 10 := (digit_facts _ (Nat.mod_lt k (by decide))).2.1
theorem isDig_dig (k : Nat) : isDig (Char.ofNat (48 + k % 10)) = true := (digit_facts _ (Nat.mod_lt k (by decide))).1

theorem d2_eq (n : Nat) : d2 n = [Char.ofNat (48 + n / 10 % 10), Char.ofNat (48 + n % 10)] := rfl

theorem d4_eq (n : Nat) : d4 n = [Char.ofNat (48 + n / 100 / 10 % 10), Char.ofNat (48 + n / 100 % 10),
    Char.ofNat (48 + n % 100 / 10 % 10), Char.ofNat (48 + n % 100 % 10)] := rfl

theorem d2_isDig (n : Nat) : (d2 n).all isDig = true := by
  simp only [d2, List.all_cons, List.all_nil, isDig_dig, Bool.and_self]

/-! `num` of `d2 n` and `d4 n`, stated on the characters: that is what a parser's `match` leaves of
    them, and `isDig_dig` applies to each character as it stands. -/

theorem num_d2 (n : Nat) (h : n < 100) : num [Char.ofNat (48 + n / 10 % 10), Char.ofNat (48 + n % 10)] = n :=
  (val_digits 2 n).trans (Nat.mod_eq_of_lt h)

theorem num_d4 (n : Nat) (h : n < 10000) : num [Char.ofNat (48 + n / 100 / 10 % 10), Char.ofNat (48 + n / 100 % 10),
    Char.ofNat (48 + n % 100 / 10 % 10), Char.ofNat (48 + n % 100 % 10)] = n := by
  simp only [num, List.foldl_cons, List.foldl_nil, dval_dig]
  omega

/-- dates: parsing the text of a calendar date of the years 0..9999 gives the date back -/
theorem parseDate_format (d : YMD) (hy : d.y ≤ 9999) (hv : validYMD d.y d.m d.d = true) :
    parseDateText (formatDate d) = some d := by
  have hb : d.m < 100 ∧ d.d < 100 := by
    simp only [validYMD, Bool.and_eq_true, decide_eq_true_eq] at hv
    have : daysIn d.y d.m ≤ 31 := by unfold daysIn; split <;> (try split) <;> omega
    omega
  simp only [formatDate, parseDateText, d4_eq, d2_eq, List.cons_append, List.nil_append, List.all_cons, List.all_nil,
    isDig_dig, num_d4 _ (Nat.lt_succ_of_le hy), num_d2 _ hb.1, num_d2 _ hb.2, hv, Bool.and_self, if_true]

/-- HH:mm under any bounds a two-digit field can hold -/
theorem parseHHmm_format (B : HHmmBounds) (bh : B.maxHours < 100) (bm : B.maxMinutes < 100) (t : HM)
    (h0 : 0 ≤ t.h) (hh : t.h ≤ B.maxHours) (m0 : 0 ≤ t.m) (hm : t.m ≤ B.maxMinutes)
    (hr : B.rule24 = true → t.h = 24 → t.m = 0) : parseHHmm B (hhmmString t) = some t := by
  obtain ⟨th, tm⟩ := t
  simp only at h0 hh m0 hm hr
  have g3 : ¬ (B.rule24 = true ∧ th.toNat = 24 ∧ tm.toNat ≠ 0) := fun ⟨a, b, c⟩ => c (by have := hr a (by omega); omega)
  simp only [hhmmString, parseHHmm, d2_eq, List.cons_append, List.nil_append, List.all_cons, List.all_nil, isDig_dig,
    num_d2 th.toNat (by omega), num_d2 tm.toNat (by omega),
    show ¬ th.toNat > B.maxHours by omega, show ¬ tm.toNat > B.maxMinutes by omega, g3, Bool.and_self, if_true, if_false,
    Int.toNat_of_nonneg h0, Int.toNat_of_nonneg m0]

theorem parseHHmm_domain (B : HHmmBounds) (s : List Char) (t : HM) (h : parseHHmm B s = some t) :
    0 ≤ t.h ∧ t.h ≤ B.maxHours ∧ 0 ≤ t.m ∧ t.m ≤ B.maxMinutes ∧ (B.rule24 = true → t.h = 24 → t.m = 0) := by
  unfold parseHHmm at h
  split at h
  · -- the guards the parser went through, as one conjunction
    simp only [Option.ite_none_right_eq_some, Option.ite_none_left_eq_some, Option.some.injEq] at h
    obtain ⟨_, hh, hm, hr, rfl⟩ := h
    dsimp only
    refine ⟨by omega, by omega, by omega, by omega, fun hb h24 => ?_⟩
    exact Classical.byContradiction fun hm0 => hr ⟨hb, by omega, by omega⟩
  · cases h

/-- the branches of `decimal`: it prints a `w`-digit numeral wide enough for `n` -/
theorem decimal_digits (n : Nat) (h : n ≤ 999999) : ∃ w, 1 ≤ w ∧ w ≤ 6 ∧ n < 10 ^ w ∧ decimal n = digits w n := by
  by_cases h1 : n < 10
  · exact ⟨1, by decide, by decide, h1, by simp only [decimal, if_pos h1]; rfl⟩
  by_cases h2 : n < 100
  · exact ⟨2, by decide, by decide, h2, by simp only [decimal, if_pos h2, if_neg h1]; rfl⟩
  by_cases h3 : n < 1000
  · exact ⟨3, by decide, by decide, h3, by
      simp only [decimal, if_pos h3, if_neg h1, if_neg h2, digits, Nat.div_div_eq_div_mul]; rfl⟩
  by_cases h4 : n < 10000
  · exact ⟨4, by decide, by decide, h4, by
      simp only [decimal, if_pos h4, if_neg h1, if_neg h2, if_neg h3, digits, Nat.div_div_eq_div_mul]; rfl⟩
  by_cases h5 : n < 100000
  · exact ⟨5, by decide, by decide, h5, by
      simp only [decimal, if_pos h5, if_neg h1, if_neg h2, if_neg h3, if_neg h4, digits, Nat.div_div_eq_div_mul]; rfl⟩
  · exact ⟨6, by decide, by decide, by omega, by
      simp only [decimal, if_pos (show n < 1000000 by omega), if_neg h1, if_neg h2, if_neg h3, if_neg h4, if_neg h5,
        digits, Nat.div_div_eq_div_mul]; rfl⟩

theorem num_lt_pow (l : List Char) (hl : l.all isDig = true) : num l < 10 ^ l.length := by
  have : ∀ (l : List Char) (acc : Nat), l.all isDig = true →
      l.foldl (fun a c => a * 10 + dval c) acc < (acc + 1) * 10 ^ l.length := by
    intro l
    induction l with
    | nil => intro acc _; simp
    | cons c r ih =>
      intro acc hl
      simp only [List.all_cons, Bool.and_eq_true] at hl
      have hc : dval c ≤ 9 := by
        have h1 := hl.1
        unfold isDig at h1
        simp only [Bool.and_eq_true, decide_eq_true_eq] at h1
        unfold dval
        have : c.toNat ≤ '9'.toNat := h1.2
        simp at this; omega
      have := ih (acc * 10 + dval c) hl.2
      simp only [List.foldl_cons, List.length_cons]
      calc _ < (acc * 10 + dval c + 1) * 10 ^ r.length := this
        _ ≤ ((acc + 1) * 10) * 10 ^ r.length := Nat.mul_le_mul_right _ (by omega)
        _ = (acc + 1) * 10 ^ (r.length + 1) := by rw [Nat.pow_succ]; ac_rfl
  have := this l 0 hl
  rwa [Nat.zero_add, Nat.one_mul] at this

end Uhppote.Proofs.Text
