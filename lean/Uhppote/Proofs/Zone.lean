import Uhppote.Model.Time
/-! Go's `time.Date` zone resolution: exact for civil times that exist, shifted by the gap for
    civil times that a spring-forward transition removed; and the repository's `startOfDay`. -/
namespace Uhppote.Proofs.Zone
open Uhppote.Model.Time

/-- locality hypothesis: within ±D of the civil value `c` the zone has at most one transition,
    at instant T, from offset A to offset B; offsets are bounded by D -/
structure OneTransition (z : Zone) (c D T A B : Int) : Prop where
  before : ∀ v, c - D ≤ v → v ≤ c + D → v < T → z.off v = A ∧ z.hi v = T ∧ z.lo v ≤ c - D
  after  : ∀ v, c - D ≤ v → v ≤ c + D → T ≤ v → z.off v = B ∧ z.lo v = T ∧ c + D < z.hi v
  boundA : -D ≤ A ∧ A ≤ D
  boundB : -D ≤ B ∧ B ≤ D

/-- the same transition seen from a centre up to `k'` later, the margin `k'` given up -/
theorem OneTransition.shift {z : Zone} {c D k' T A B : Int} (h : OneTransition z c (2 * D + k') T A B) (k : Int)
    (hk : 0 ≤ k ∧ k ≤ k') (hA : -D ≤ A ∧ A ≤ D) (hB : -D ≤ B ∧ B ≤ D) :
    OneTransition z (c + k) (2 * D) T A B where
  before := fun v h1 h2 h3 => by
    obtain ⟨e1, e2, e3⟩ := h.before v (by omega) (by omega) h3
    exact ⟨e1, e2, by omega⟩
  after := fun v h1 h2 h3 => by
    obtain ⟨e1, e2, e3⟩ := h.after v (by omega) (by omega) h3
    exact ⟨e1, e2, by omega⟩
  boundA := by omega
  boundB := by omega

/-- civil time `c` falls in the gap of a spring-forward transition -/
def InGap (c T A B : Int) : Prop := T + A ≤ c ∧ c < T + B

section
variable {z : Zone} {c D T A B : Int} (h : OneTransition z c (2 * D) T A B)
include h

/-- the window conditions, once: every instant the resolution looks at is `c - o` for an offset `o` within `D` -/
theorem before_at (o : Int) (ho : -D ≤ o ∧ o ≤ D) (hv : c - o < T) :
    z.off (c - o) = A ∧ z.hi (c - o) = T ∧ z.lo (c - o) ≤ c - 2 * D :=
  h.before (c - o) (by omega) (by omega) hv

theorem after_at (o : Int) (ho : -D ≤ o ∧ o ≤ D) (hv : T ≤ c - o) :
    z.off (c - o) = B ∧ z.lo (c - o) = T ∧ c + 2 * D < z.hi (c - o) :=
  h.after (c - o) (by omega) (by omega) hv

/-- a candidate instant `c - o` before the transition shows the civil time `c - o + A` -/
theorem civil_before (o : Int) (ho : -D ≤ o ∧ o ≤ D) (hv : c - o < T) : civil z (c - o) = c - o + A := by
  unfold civil; rw [(before_at h o ho hv).1]

theorem civil_after (o : Int) (ho : -D ≤ o ∧ o ≤ D) (hv : T ≤ c - o) : civil z (c - o) = c - o + B := by
  unfold civil; rw [(after_at h o ho hv).1]

/-- what `time.Date` computes for `c` before the transition instant: the first lookup finds A and the
    period ending at T; the candidate `c - A` is kept unless it falls beyond T, where the second
    lookup finds B -/
theorem goDate_of_lt (hA : -D ≤ A ∧ A ≤ D) (hc : c < T) : goDate z c = if c - A < T then c - A else c - B := by
  obtain ⟨e1, e2, e3⟩ := h.before c (by omega) (by omega) hc
  unfold goDate
  simp only [e1, e2]
  by_cases h0 : A = 0
  · rw [if_pos h0, if_pos (by omega)]; omega
  · by_cases hv : c - A < T
    · rw [if_neg h0, if_pos hv, if_neg (by omega)]
    · rw [if_neg h0, if_neg hv, if_pos (by omega), (after_at h A hA (by omega)).1]

/-- … and from the transition instant on: B and the period starting at T; `c - B` is kept unless it
    falls before T, where the second lookup finds A -/
theorem goDate_of_ge (hB : -D ≤ B ∧ B ≤ D) (hc : T ≤ c) : goDate z c = if T ≤ c - B then c - B else c - A := by
  obtain ⟨e1, e2, e3⟩ := h.after c (by omega) (by omega) hc
  unfold goDate
  simp only [e1, e2]
  by_cases h0 : B = 0
  · rw [if_pos h0, if_pos (by omega)]; omega
  · by_cases hv : T ≤ c - B
    · rw [if_neg h0, if_pos hv, if_neg (by omega)]
    · rw [if_neg h0, if_neg hv, if_pos (by omega), (before_at h B hB (by omega)).1]

/-- outside the gap `time.Date` returns an instant that shows exactly `c` -/
theorem civil_goDate (hA : -D ≤ A ∧ A ≤ D) (hB : -D ≤ B ∧ B ≤ D) (hg : ¬ InGap c T A B) : civil z (goDate z c) = c := by
  unfold InGap at hg
  by_cases hc : c < T
  · rw [goDate_of_lt h hA hc]
    split
    · rw [civil_before h A hA ‹_›]; omega
    · rw [civil_after h B hB (by omega)]; omega
  · rw [goDate_of_ge h hB (by omega)]
    split
    · rw [civil_after h B hB ‹_›]; omega
    · rw [civil_before h A hA (by omega)]; omega

end

/-- `time.Date` returns an instant with EXACTLY the requested civil time whenever that time exists -/
theorem goDate_exact (z : Zone) (c D T A B : Int) (h : OneTransition z c (2 * D) T A B)
    (hA : -D ≤ A ∧ A ≤ D) (hB : -D ≤ B ∧ B ≤ D) (hbound : ∀ v, -D ≤ z.off v ∧ z.off v ≤ D)
    (hex : ∃ u, civil z u = c) : civil z (goDate z c) = c := by
  -- the witness lies within D of c, where its offset is A (before T) or B (from T on): c is not in the gap
  obtain ⟨u, hu⟩ := hex
  have hub := hbound u
  unfold civil at hu
  refine civil_goDate h hA hB fun hg => ?_
  unfold InGap at hg
  by_cases huT : u < T
  · have := (h.before u (by omega) (by omega) huT).1; omega
  · have := (h.after u (by omega) (by omega) (by omega)).1; omega

/-- west of the transition instant (negative offsets): `time.Date` goes BACK by the gap -/
theorem goDate_gap_west (z : Zone) (c D T A B : Int) (h : OneTransition z c (2 * D) T A B)
    (hA : -D ≤ A ∧ A ≤ D) (hB : -D ≤ B ∧ B ≤ D) (hg : InGap c T A B) (hw : c < T) :
    goDate z c = c - B ∧ civil z (goDate z c) = c - (B - A) := by
  unfold InGap at hg
  have e : goDate z c = c - B := by rw [goDate_of_lt h hA hw, if_neg (by omega)]
  rw [e, civil_before h B hB (by omega)]
  exact ⟨rfl, by omega⟩

/-- east (positive offsets): forward by the gap, same civil day -/
theorem goDate_gap_east (z : Zone) (c D T A B : Int) (h : OneTransition z c (2 * D) T A B)
    (hA : -D ≤ A ∧ A ≤ D) (hB : -D ≤ B ∧ B ≤ D) (hg : InGap c T A B) (he : T ≤ c) :
    goDate z c = c - A ∧ civil z (goDate z c) = c + (B - A) := by
  unfold InGap at hg
  have e : goDate z c = c - A := by rw [goDate_of_ge h hB he, if_neg (by omega)]
  rw [e, civil_after h A hA (by omega)]
  exact ⟨rfl, by omega⟩

/-- the value `time.Date` returns always shows a civil time within one gap of the request -/
theorem goDate_near (z : Zone) (c D T A B : Int) (h : OneTransition z c (2 * D) T A B)
    (hA : -D ≤ A ∧ A ≤ D) (hB : -D ≤ B ∧ B ≤ D) :
    civil z (goDate z c) = c ∨
    (InGap c T A B ∧ c < T ∧ goDate z c = c - B ∧ civil z (goDate z c) = c - (B - A)) ∨
    (InGap c T A B ∧ T ≤ c ∧ goDate z c = c - A ∧ civil z (goDate z c) = c + (B - A)) := by
  by_cases hg : InGap c T A B
  · by_cases hw : c < T
    · exact Or.inr (Or.inl ⟨hg, hw, goDate_gap_west z c D T A B h hA hB hg hw⟩)
    · exact Or.inr (Or.inr ⟨hg, by omega, goDate_gap_east z c D T A B h hA hB hg (by omega)⟩)
  · exact Or.inl (civil_goDate h hA hB hg)

theorem dayOf_eq {m : Int} (hm : m % 86400 = 0) {x : Int} (hx : m ≤ x ∧ x < m + 86400) :
    dayOf x = dayOf m := by
  unfold dayOf; omega

/-- a midnight removed west of the transition, gap shorter than the `k` seconds to the second probe: `time.Date`
    answers before T, the probe lands in the period that starts at T, and T itself shows T + B -/
theorem removed_west {z : Zone} {m D T A B k : Int} (h0 : OneTransition z m (2 * D) T A B)
    (hn : OneTransition z (m + k) (2 * D) T A B) (hA : -D ≤ A ∧ A ≤ D) (hB : -D ≤ B ∧ B ≤ D)
    (g : InGap m T A B) (hw : m < T) (hgap : B - A < k) :
    goDate z m < T ∧ z.lo (goDate z (m + k)) = T ∧ civil z T = T + B := by
  have et := (goDate_gap_west z m D T A B h0 hA hB g hw).1
  unfold InGap at g
  have en : goDate z (m + k) = m + k - B := by
    by_cases hc : m + k < T
    · rw [goDate_of_lt hn hA hc, if_neg (by omega)]
    · rw [goDate_of_ge hn hB (by omega), if_pos (by omega)]
  refine ⟨by omega, ?_, ?_⟩
  · rw [en]; exact (after_at hn B hB (by omega)).2.1
  · unfold civil; rw [(h0.after T (by omega) (by omega) (Int.le_refl T)).1]

/-- **the repository's date constructor keeps the civil day** in every zone with at most one
    transition nearby whose gap is shorter than twelve hours (every real DST change), including
    when the change removes local midnight -/
theorem startOfDay_day (z : Zone) (m D T A B : Int) (hm : m % 86400 = 0)
    (h : OneTransition z m (2 * D + 43200) T A B)
    (hA : -D ≤ A ∧ A ≤ D) (hB : -D ≤ B ∧ B ≤ D) (hgap : B - A < 43200) :
    dayOf (civil z (startOfDay z m)) = dayOf m := by
  have h0 : OneTransition z m (2 * D) T A B := Int.add_zero m ▸ h.shift 0 (by decide) hA hB
  have hn : OneTransition z (m + 43200) (2 * D) T A B := h.shift 43200 (by decide) hA hB
  -- noon, moved by less than twelve hours if at all, shows the day
  have dn : dayOf (civil z (goDate z (m + 43200))) = dayOf m := by
    rcases goDate_near z (m + 43200) D T A B hn hA hB with e | ⟨g, _, _, e⟩ | ⟨g, _, _, e⟩
    · rw [e]; exact dayOf_eq hm (by omega)
    · unfold InGap at g; rw [e]; exact dayOf_eq hm (by omega)
    · unfold InGap at g; rw [e]; exact dayOf_eq hm (by omega)
  unfold startOfDay
  rcases goDate_near z m D T A B h0 hA hB with e | ⟨g, hw, _, e⟩ | ⟨g, _, _, e⟩
  · rw [if_neg (by rw [dn, e]; exact fun h => h rfl), e]
  · -- `time.Date` fell back to the previous day: the day starts at the transition itself
    obtain ⟨ht, hl, cT⟩ := removed_west h0 hn hA hB g hw hgap
    unfold InGap at g
    rw [if_pos (by rw [dn, e]; unfold dayOf; omega), hl, if_pos ht, cT]
    exact dayOf_eq hm (by omega)
  · -- forward by the gap, within the day
    unfold InGap at g
    have d : dayOf (civil z (goDate z m)) = dayOf m := by rw [e]; exact dayOf_eq hm (by omega)
    rw [if_neg (by rw [dn, d]; exact fun h => h rfl), d]

end Uhppote.Proofs.Zone
