import Uhppote.Model.Api
/-! What `Model.Api.call` and `driverReply` do whatever arrives, for any tables, facts and no-reply code: C01, C03 and C06
    instantiate these. -/
namespace Uhppote.Proofs.Call
open Uhppote.Model Uhppote.Model.Api

/-! `driverReply` for ANY no-reply function code (`call` hands its parameter `noReplyCode` on; C03 instantiates it with
    0x96, the function code for which uhppote/UT0311.go returns without reading) -/

theorem driverReply_noReply {code : Nat} {req : Bytes} (h : codeOf req = code) (path : Path) (serial : Nat)
    (arrivals : List Bytes) : driverReply code path serial req arrivals = none :=
  if_pos h

theorem driverReply_broadcast {code : Nat} {req : Bytes} (h : codeOf req ≠ code) (serial : Nat) (arrivals : List Bytes) :
    driverReply code .broadcastTo serial req arrivals =
      some (arrivals.find? fun d => d.length == 64 && serialOf d == serial) :=
  if_neg h

theorem driverReply_directed {code : Nat} {req : Bytes} (h : codeOf req ≠ code) {path : Path} (hp : path ≠ .broadcastTo)
    (serial : Nat) (arrivals : List Bytes) : driverReply code path serial req arrivals = some arrivals.head? := by
  cases path <;> simp [driverReply, h] at *

theorem driverReply_mem {code : Nat} {path : Path} {serial : Nat} {req d : Bytes} {arrivals : List Bytes}
    (h : driverReply code path serial req arrivals = some (some d)) : d ∈ arrivals := by
  unfold driverReply at h
  split at h
  · cases h
  · split at h
    · exact List.mem_of_find?_eq_some (Option.some.inj h)
    · exact List.mem_of_mem_head? (Option.some.inj h)

/-- an accepted call makes exactly one driver call: the marshalled request, sent where the routing
    table says -/
theorem call_accepted (F : CodecFacts) (T : BCD.Tables) (B : HHmmBounds) (layouts : String → Option Layout)
    (code : Nat) (cfg : Cfg) (op : Op) (args : List Arg) (arrivals : List Bytes) (L : Layout) (m : Bytes)
    (hacc : op.rejects args = false) (hL : layouts op.request = some L)
    (hm : marshal F T L (op.build args) = .ok m) :
    (call F T B layouts code cfg op args arrivals).1.calls =
      [⟨(route cfg (u32? (arg args 0))).1.toString, (route cfg (u32? (arg args 0))).2, m⟩] := by
  simp only [call, hacc, hL, hm, Bool.false_eq_true, if_false]
  -- whatever the driver returns, every branch below keeps the one call built here
  repeat' split
  all_goals rfl

/-- whatever decides, a result other than an error needs a 64-byte datagram with the call's serial number that decodes
    as the operation's own reply type - for ANY no-reply code, as long as the request does not carry it -/
theorem call_inv (F : CodecFacts) (T : BCD.Tables) (B : HHmmBounds) (layouts : String → Option Layout)
    (code : Nat) (cfg : Cfg) (op : Op) (args : List Arg) (arrivals : List Bytes)
    (R : Layout) (hR : op.reply.bind layouts = some R)
    (hcode : ∀ L m, layouts op.request = some L → marshal F T L (op.build args) = .ok m → codeOf m ≠ code)
    (hres : (call F T B layouts code cfg op args arrivals).1.res ≠ .err) :
    ∃ d ∈ arrivals, d.length = 64 ∧ serialOf d = u32? (arg args 0) ∧
      ∃ r, unmarshal F T B R d = .ok r ∧ (call F T B layouts code cfg op args arrivals).1.res = op.result args r := by
  unfold call at hres ⊢
  by_cases hrej : op.rejects args = true
  · simp [hrej] at hres
  · simp only [hrej, Bool.false_eq_true, if_false] at hres ⊢
    cases hL : layouts op.request with
    | none => simp [hL] at hres
    | some L =>
      simp only [hL] at hres ⊢
      cases hm : marshal F T L (op.build args) with
      | err => simp [hm] at hres
      | panic => simp [hm] at hres
      | ok m =>
        simp only [hm] at hres ⊢
        have hc := hcode L m hL hm
        cases hdr : driverReply code (route cfg (u32? (arg args 0))).1 (u32? (arg args 0)) m arrivals with
        | none => simp only [driverReply, hc, if_false] at hdr; split at hdr <;> cases hdr
        | some o =>
          simp only [hdr] at hres ⊢
          cases o with
          | none => simp at hres
          | some d =>
            have hmem : d ∈ arrivals := driverReply_mem hdr
            by_cases hlen : d.length ≠ 64
            · simp [hlen] at hres
            · simp only [hlen, if_false] at hres ⊢
              by_cases hser : serialOf d ≠ u32? (arg args 0)
              · simp [hser] at hres
              · simp only [hser, if_false, hR] at hres ⊢
                cases hu : unmarshal F T B R d with
                | ok r =>
                  exact ⟨d, hmem, by simpa using hlen, by simpa using hser, r, hu, rfl⟩
                | err => simp [hu] at hres
                | panic => simp [hu] at hres

end Uhppote.Proofs.Call
