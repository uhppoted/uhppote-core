import Uhppote.Model.Api
import Uhppote.Spec.Api
/-! The model (`Model.Api`) and the specification (`Spec.Api`) each have their own readers of an
    argument list and their own guard predicates; here each of the model's is shown to be the
    specification's, once. The lemmas are named `<model name>_<specification name>` and rewrite from the
    model's vocabulary into the specification's. -/
namespace Uhppote.Proofs.ApiVocab
open Uhppote.Model Uhppote.Model.Api

theorem arg_a (xs : List Arg) (i : Nat) : arg xs i = Spec.Api.a xs i := rfl
theorem dev_serial (xs : List Arg) : dev xs = Spec.Api.serial xs := rfl
theorem magic_magic : Model.Api.magic = Spec.Api.magic := rfl

theorem u8?_u8Or (x : Arg) : Val.u8 (u8? x) = Spec.Api.u8Or x := by
  cases x with
  | v y => cases y <;> rfl
  | _ => rfl

theorem bool?_boolOr (x : Arg) : Val.bool (bool? x) = Spec.Api.boolOr x := by
  cases x with
  | v y => cases y <;> rfl
  | _ => rfl

theorem val?_valOr (x : Arg) : val? x = Spec.Api.valOr x .none_ := by
  cases x <;> rfl

theorem conv8_low8 (x : Arg) : Val.u8 (conv8 x) = Spec.Api.low8 x := by
  cases x with
  | v y => cases y <;> rfl
  | _ => rfl

theorem segStart_segS (x : Arg) : segStart x = Spec.Api.segS x := by
  cases x with
  | seg s => cases s <;> rfl
  | _ => rfl

theorem segEnd_segE (x : Arg) : segEnd x = Spec.Api.segE x := by
  cases x with
  | seg s => cases s <;> rfl
  | _ => rfl

theorem passcode_code4 (ps : List Nat) (i : Nat) : passcode ps i = Spec.Api.code4 ps i := by
  unfold passcode Spec.Api.code4
  cases ps[i]? with
  | none => rfl
  | some p => by_cases h : p ≤ 999999 <;> simp [h]

theorem u32?_n32 (x : Arg) : u32? x = Spec.Api.n32 x := by
  cases x with
  | v y => cases y <;> rfl
  | _ => rfl

theorem u8?_n8 (x : Arg) : (u8? x).toNat = Spec.Api.n8 x := by
  cases x with
  | v y => cases y <;> rfl
  | _ => rfl

theorem devZero_noId (xs : List Arg) : devZero xs = Spec.Api.noId xs := rfl

theorem date?_isZeroDate (x : Arg) : (date? x).isNone = Spec.Api.isZeroDate x := by
  cases x with
  | v y =>
    cases y with
    | date d => cases d <;> rfl
    | _ => rfl
  | _ => rfl

theorem segRejected_segBad (x : Arg) : segRejected x = Spec.Api.segBad x := by
  unfold segRejected Spec.Api.segBad
  cases x with
  | seg s =>
    cases s with
    | none => rfl
    | some p =>
      obtain ⟨s, e⟩ := p
      by_cases h1 : e.h < s.h <;> by_cases h2 : e.h = s.h <;> by_cases h3 : e.m < s.m <;> simp [h1, h2, h3] <;> omega
  | _ => rfl

theorem notIPv4_isIPv4 (x : Arg) : notIPv4 x = !Spec.Api.isIPv4 x := by
  cases x with
  | v y =>
    cases y with
    | ip bs =>
      simp only [notIPv4, Spec.Api.isIPv4]
      unfold to4 v4InV6Prefix
      by_cases h4 : bs.length = 4
      · simp [h4]
      · by_cases h16 : bs.length = 16
        · by_cases hp : List.take 12 bs = [0, 0, 0, 0, 0, 0, 0, 0, 0, 0, 0xff, 0xff] <;> simp [h16, hp]
        · simp [h4, h16]
    | _ => rfl
  | _ => rfl

/-- SetListener's two address guards (`!address.IsValid()`, then `address != 0.0.0.0:0 && (!Is4 ||
    port == 0)`), as translated, are the rule "anything but 0.0.0.0:0 or an IPv4 address with a
    non-zero port is rejected" -/
theorem listener_rule (x : Arg) :
    (!(apValid x) || (!(apIsZero x) && (!(apIs4 x) || (apPort x == 0)))) =
    (match x with
     | .v (.addrPort (.v4 x y z w p)) => !((x == 0 && y == 0 && z == 0 && w == 0 && p == 0) || p != 0)
     | _ => true) := by
  cases x with
  | v y =>
    cases y with
    | addrPort ap =>
      cases ap with
      | v4 a b c d p =>
        simp only [apValid, apIsZero, apIs4, apPort]
        by_cases hp : p = 0
        · subst hp; simp
        · have h1 : (p == 0) = false := by simpa using hp
          have h2 : (p != 0) = true := by simp [bne, h1]
          simp [h1, h2]
      | other => rfl
    | _ => rfl
  | _ => rfl

theorem hmOfPtr_hmVal (x : Val) : hmOfPtr x = Spec.Api.hmVal x := by
  cases x with
  | hhmmPtr t => cases t <;> rfl
  | _ => rfl

end Uhppote.Proofs.ApiVocab
