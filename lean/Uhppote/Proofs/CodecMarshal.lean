import Uhppote.Proofs.CodecPieces
/-! `Marshal` on a well-formed layout. The writer of a plain field is "compute the bytes (`fieldBytes`), put them at the
    offset"; for in-domain values the bytes are the specification's wire bytes, so the sequential writes are the
    position-wise image (C01 C05 C18 i); for EVERY value a Go variable can hold they are no longer than the field, so
    nothing panics and whatever an out-of-domain value leaves stays inside its own field (`Spec.Codec.confined`,
    C04 C18 vi). -/
namespace Uhppote.Proofs.Codec
open Uhppote.Model Uhppote.Spec.Codec

def applyPieces (buf : Bytes) (ps : List Piece) : Bytes := ps.foldl (fun b p => writeAt b p.1 p.2) buf

theorem length_applyPieces (buf : Bytes) (ps : List Piece) : (applyPieces buf ps).length = buf.length := by
  induction ps generalizing buf with
  | nil => rfl
  | cons p ps ih => exact (ih _).trans (length_writeAt _ _ _)

theorem getElem?_applyPieces : ∀ (ps : List Piece) (buf : Bytes),
    (∀ p ∈ ps, p.1 + p.2.length ≤ buf.length) → ps.Pairwise disj → ∀ i,
    (applyPieces buf ps)[i]? = match ps.find? (covers i) with
      | some p => p.2[i - p.1]?
      | none => buf[i]?
  | [], buf, _, _, i => by simp [applyPieces]
  | p :: ps, buf, hfit, hd, i => by
    have hp := hfit p (by simp)
    have ih := getElem?_applyPieces ps (writeAt buf p.1 p.2)
      (fun q hq => by simpa using hfit q (by simp [hq])) (List.pairwise_cons.1 hd).2 i
    have happ : applyPieces buf (p :: ps) = applyPieces (writeAt buf p.1 p.2) ps := rfl
    rw [happ, ih, List.find?_cons]
    by_cases hc : covers i p = true
    · have hnone : ps.find? (covers i) = none := by
        rw [List.find?_eq_none]
        intro q hq hcq
        have hdq := (List.pairwise_cons.1 hd).1 q hq
        rw [covers_iff] at hc hcq
        unfold disj at hdq; omega
      simp only [hc, hnone]
      rw [getElem?_writeAt _ _ _ _ hp]
      rw [covers_iff] at hc
      simp [hc]
    · have hc' : covers i p = false := by simpa using hc
      simp only [hc']
      cases hf : ps.find? (covers i) with
      | some q => rfl
      | none =>
        rw [getElem?_writeAt _ _ _ _ hp]
        rw [covers_eq_false_iff] at hc'
        have : ¬ (p.1 ≤ i ∧ i < p.1 + p.2.length) := by omega
        simp [this]

/-- the initial buffer of `Marshal` -/
def initBuf : Bytes := (zeros 64).set 0 0x17

theorem initBuf_get (i : Nat) (h : i < 64) : initBuf[i]? = some (if i = 0 then 0x17 else 0) := by
  unfold initBuf zeros
  by_cases h0 : i = 0
  · subst h0; simp
  · rw [List.getElem?_set_ne (by omega), List.getElem?_replicate]
    simp [h0, h]

theorem getD_applyPieces (ps : List Piece) (hfit : ∀ p ∈ ps, p.1 + p.2.length ≤ 64) (hd : ps.Pairwise disj)
    (i : Nat) (hi : i < 64) : (applyPieces initBuf ps).getD i 0 = imageByte ps i := by
  have hlen : initBuf.length = 64 := by simp [initBuf]
  rw [List.getD_eq_getElem?_getD, getElem?_applyPieces ps initBuf (by simpa [hlen] using hfit) hd i, imageByte_eq]
  cases hf : ps.find? (covers i) with
  | some p => simp only [List.getD_eq_getElem?_getD]
  | none => simp only [initBuf_get i hi, Option.getD_some]

theorem applyPieces_image (ps : List Piece) (hfit : ∀ p ∈ ps, p.1 + p.2.length ≤ 64) (hd : ps.Pairwise disj) :
    applyPieces initBuf ps = imageOf ps := by
  apply List.ext_getElem (by rw [length_applyPieces, length_imageOf]; simp [initBuf])
  intro i h1 h2
  have hi : i < 64 := by rwa [length_imageOf] at h2
  have e := (getD_applyPieces ps hfit hd i hi).trans (getD_imageOf ps i hi).symm
  rwa [List.getD_eq_getElem?_getD, List.getElem?_eq_getElem h1, List.getD_eq_getElem?_getD,
    List.getElem?_eq_getElem h2, Option.getD_some, Option.getD_some] at e

theorem setAt_eq (buf : Bytes) (o : Nat) (v : UInt8) (h : o + 1 ≤ buf.length) :
    setAt buf o v = .ok (writeAt buf o [v]) := by
  unfold setAt; rw [if_pos (by omega)]; rfl

theorem copyAt_eq (buf : Bytes) (o : Nat) (b : Bytes) (h : o + b.length ≤ buf.length) :
    copyAt buf o b = .ok (writeAt buf o b) := by
  unfold copyAt; rw [if_pos h]

/-- what the writer of a plain field puts at the field's offset, for ANY value: `none` = `Marshal` fails,
    `some none` = nothing is written (a nil pointer, an error of the type's own encoder, which the codec ignores,
    a value of another type), `some (some b)` = the bytes `b` -/
def fieldBytes (k : Kind) (v : Val) : Option (Option Bytes) :=
  if k.isMarshaler then some (encMarshaler BCD.canonical k v).join
  else match k, v with
    | .u8, .u8 x => some (some [x])
    | .u16, .u16 x => some (some (le16 x))
    | .u32, .u32 x => some (some (le32 x))
    | .bool, .bool x => some (some [if x then 1 else 0])
    | .ipv4, .ip bs => some (some (((to4 bs).getD []).take 4))
    | .addrPort, .addrPort (.v4 a b c d p) => some (some ([a, b, c, d] ++ le16 p))
    | .addrPort, .addrPort .other => none
    | .mac, .mac bs => some (some (bs.take 6))
    | _, _ => some none

theorem marshalLeaf_plain {k : Kind} {tag : Option String} (hk : Plain k tag) (buf : Bytes) (off : Nat) (v : Val)
    (hfit : off + k.width ≤ buf.length) (hw : ∀ b, fieldBytes k v = some (some b) → b.length ≤ k.width) :
    marshalLeaf goodFacts BCD.canonical buf (.at off k tag) v =
      match fieldBytes k v with
      | none => .err
      | some none => .ok buf
      | some (some b) => .ok (writeAt buf off b) := by
  by_cases hm : k.isMarshaler = true
  · simp only [marshalLeaf, fieldBytes, hm, if_true] at hw ⊢
    rcases h : encMarshaler BCD.canonical k v with _ | _ | b
    · rfl
    · rfl
    · exact copyAt_eq _ _ _ (by have := hw b (by rw [h]; rfl); omega)
  · have hu8 : k = .u8 → tag = none := fun h => hk.resolve_left (fun hc => hc h)
    cases k <;> simp only [Kind.isMarshaler, not_true_eq_false] at hm
    -- per kind: only a value of the field's own type is written, behind the writer's own bounds test (an `if`
    -- once the regenerated slice widths 2, 4 evaluate; `hw` is for `copyAt`'s test in the marshaler arm above)
    case u8 =>
      cases hu8 rfl
      cases v with
      | u8 x => exact setAt_eq _ _ _ hfit
      | _ => rfl
    case u16 =>
      cases v with
      | u16 x => exact if_pos ⟨hfit, Nat.le_refl 2⟩
      | _ => rfl
    case u32 =>
      cases v with
      | u32 x => exact if_pos ⟨hfit, Nat.le_refl 4⟩
      | _ => rfl
    case bool =>
      cases v with
      | bool x => exact (setAt_eq _ _ _ hfit).trans (by cases x <;> rfl)
      | _ => rfl
    case ipv4 =>
      cases v with
      | ip bs => exact if_pos hfit
      | _ => rfl
    case addrPort =>
      cases v with
      | addrPort a =>
        cases a with
        | other => rfl
        | v4 a b c d p => exact copyAt_eq _ _ _ (by simpa [le16, Kind.width] using hfit)
      | _ => rfl
    case mac =>
      cases v with
      | mac bs => exact if_pos hfit
      | _ => rfl

theorem fieldBytes_of_marshaler {k : Kind} {v : Val} {ob : Option Bytes} (hm : k.isMarshaler = true)
    (h : encMarshaler BCD.canonical k v = some ob) : fieldBytes k v = some ob := by
  simp [fieldBytes, hm, h]

/-- (`getD []`: a nil pointer writes nothing, and its wire form is empty) -/
theorem fieldBytes_wire {k : Kind} {v : Val} {b : Bytes} (hw : Wire k v b) : ∃ ob, fieldBytes k v = some ob ∧ ob.getD [] = b := by
  cases hw with
  | u8 | bool | datePtrNil | dateTimePtrNil | hhmmPtrNil | dateNone | datePtrNone => exact ⟨_, rfl, rfl⟩
  | u16 x h => exact ⟨_, rfl, le16_wire x⟩
  | u32 x h | serial x h => exact ⟨_, rfl, le32_wire x⟩
  | ip4 bs h => exact ⟨_, rfl, by simp [to4, h, List.take_of_length_le (Nat.le_of_eq h)]⟩
  | ip16 bs h =>
    exact ⟨_, rfl, by simp [to4, h, v4InV6Prefix, List.take_of_length_le (show (bs.drop 12).length ≤ 4 by simp [h.1])]⟩
  | addrPort a b c d p h => exact ⟨_, rfl, by simp [le16_wire p]⟩
  | mac _ h => exact ⟨_, rfl, List.take_of_length_le (Nat.le_of_eq h)⟩
  | macAddress _ h => exact ⟨_, rfl, encMac_six _ h⟩
  | date d h | datePtr d h => exact ⟨_, fieldBytes_of_marshaler rfl (congrArg some (encDate_some d (dateInDomain_bounds d h))), rfl⟩
  | dateTimeNone | dateTimePtrNone => exact ⟨_, fieldBytes_of_marshaler rfl (congrArg some encDateTime_none), rfl⟩
  | dateTime d h | dateTimePtr d h =>
    exact ⟨_, fieldBytes_of_marshaler rfl (congrArg some (encDateTime_some d (dateTimeInDomain_bounds d h))), rfl⟩
  | sysDate d h =>
    simp only [Bool.and_eq_true, decide_eq_true_eq] at h
    exact ⟨_, fieldBytes_of_marshaler rfl (congrArg some (encSysDate_some d (validDate_bounds d h.1.1).2)), rfl⟩
  | sysTime t h =>
    simp only [Bool.and_eq_true, decide_eq_true_eq] at h
    exact ⟨_, fieldBytes_of_marshaler rfl (congrArg some (encSysTime_eq t ⟨by omega, by omega, by omega⟩)), rfl⟩
  | hhmm t h | hhmmPtr t h =>
    simp only [hhmmInDomain, Bool.and_eq_true, decide_eq_true_eq] at h
    exact ⟨_, fieldBytes_of_marshaler rfl (congrArg some (encHHmm_eq t ⟨by omega, by omega, by omega, by omega⟩)), rfl⟩
  | pin x h => exact ⟨_, rfl, encPIN_wire x⟩
  | version x h => exact ⟨_, rfl, be16_wire x⟩

/-- what a Go variable of the field's type can hold: `SystemDate` and `SystemTime` wrap a `time.Time`, so their
    month, day, hour, minute and second are calendar values (the model's records are wider); every other value of
    every other kind is allowed -/
def goValue : Val → Bool
  | .sysDate (some d) => decide (d.m < 100) && decide (d.d < 100)
  | .sysTime t => decide (t.h < 100) && decide (t.m < 100) && decide (t.s < 100)
  | _ => true

theorem encMarshaler_width (k : Kind) (v : Val) (b : Bytes) (hg : goValue v = true)
    (h : encMarshaler BCD.canonical k v = some (some b)) : b.length ≤ k.width := by
  unfold encMarshaler at h
  -- (the arms that return nothing - a nil pointer, a value of another type - are closed here)
  split at h <;> simp only [Option.some.injEq, reduceCtorEq] at h
  -- serial
  · subst h; simp [le32, Kind.width]
  -- date, *date, date-time, *date-time: what the refusing encoders return fills the field
  · exact Nat.le_of_eq (encDate_length _ h)
  · exact Nat.le_of_eq (encDate_length _ h)
  · exact Nat.le_of_eq (encDateTime_length _ h)
  · exact Nat.le_of_eq (encDateTime_length _ h)
  -- system date and system time format a `time.Time`: three two-digit groups
  · rename_i d
    cases d with
    | none => have : encSysDate BCD.canonical none = some [0x01, 0x01, 0x01] := by decide
              rw [this] at h; cases h; simp [Kind.width]
    | some d =>
      simp only [goValue, Bool.and_eq_true, decide_eq_true_eq] at hg
      rw [encSysDate_some d hg] at h; cases h; simp [Kind.width]
  · rename_i t
    simp only [goValue, Bool.and_eq_true, decide_eq_true_eq] at hg
    rw [encSysTime_eq t ⟨hg.1.1, hg.1.2, hg.2⟩] at h; cases h; simp [Kind.width]
  -- HH:mm, *HH:mm
  · exact Nat.le_of_eq (encHHmm_length _ h)
  · exact Nat.le_of_eq (encHHmm_length _ h)
  -- PIN, version, MAC address
  · subst h; simp [encPIN, le32, Kind.width]
  · subst h; simp [be16, Kind.width]
  · subst h; simp [encMac, Kind.width, zeros]

theorem fieldBytes_width (k : Kind) (v : Val) (b : Bytes) (hg : goValue v = true) (h : fieldBytes k v = some (some b)) :
    b.length ≤ k.width := by
  unfold fieldBytes at h
  split at h
  · refine encMarshaler_width k v b hg ?_
    rcases he : encMarshaler BCD.canonical k v with _ | _ | c <;> rw [he] at h <;> cases h
    rfl
  · split at h <;> cases h <;> simp [le16, le32, Kind.width] <;> omega

/-- outcome of one leaf writer: an error, or the buffer with some bytes written inside the leaf's own range -/
def okWithin (buf : Bytes) (l : Leaf) : Outcome Bytes → Prop
  | .err => True
  | .panic => False
  | .ok out => ∃ p : Piece, within p l ∧ out = writeAt buf p.1 p.2

theorem okWithin_refl (buf : Bytes) (l : Leaf) : okWithin buf l (.ok buf) := by
  cases he : extent l with
  | none => exact ⟨(0, []), by simp [within, he], rfl⟩
  | some e => exact ⟨(e.1, []), (within_of_extent he).2 ⟨rfl, Nat.zero_le _⟩, rfl⟩

theorem okWithin_write (buf : Bytes) (l : Leaf) (o w : Nat) (b : Bytes) (he : extent l = some (o, w))
    (hb : b.length ≤ w) : okWithin buf l (.ok (writeAt buf o b)) :=
  ⟨(o, b), (within_of_extent he).2 ⟨rfl, hb⟩, rfl⟩

theorem okWithin_setAt (buf : Bytes) (hl : buf.length = 64) (l : Leaf) (o : Nat) (x : UInt8)
    (he : extent l = some (o, 1)) (hfit : o + 1 ≤ 64) : okWithin buf l (setAt buf o x) := by
  rw [setAt_eq _ _ _ (by omega)]; exact okWithin_write buf l o 1 [x] he (Nat.le_refl 1)

section leaf
variable (buf : Bytes) (hb : buf.length = 64) (l : Leaf) (v : Val)
  (hfit : InMessage l)
include hb hfit

theorem marshalLeaf_wire (p : Piece) (hw : leafWire l v = some p) :
    marshalLeaf goodFacts BCD.canonical buf l v = .ok (writeAt buf p.1 p.2) := by
  cases l using leafCases with
  | skip => cases hw; rfl
  | som t =>
    cases t with
    | none =>
      cases v <;> simp only [leafWire] at hw <;> cases hw
      exact setAt_eq _ _ _ (by omega)
    | some t =>
      simp only [leafWire, Option.map_eq_some_iff] at hw
      obtain ⟨n, hn, rfl⟩ := hw
      rw [marshalLeaf_som hn _ buf v]; exact setAt_eq _ _ _ (by omega)
  | msgType t =>
    cases t with
    | none =>
      cases v <;> simp only [leafWire] at hw <;> cases hw
      exact setAt_eq _ _ _ (by omega)
    | some t =>
      simp only [leafWire, Option.map_eq_some_iff] at hw
      obtain ⟨n, hn, rfl⟩ := hw
      rw [marshalLeaf_msgType hn _ buf v]; exact setAt_eq _ _ _ (by omega)
  | fixed off t =>
    simp only [leafWire, Option.map_eq_some_iff] at hw
    obtain ⟨n, hn, rfl⟩ := hw
    rw [marshalLeaf_fixed hn _ buf v off]; exact setAt_eq _ _ _ (by have := hfit off 1 rfl; omega)
  | plain off k tag hk =>
    rw [leafWire_plain hk, Option.map_eq_some_iff] at hw
    obtain ⟨b, hw, rfl⟩ := hw
    obtain ⟨ob, he, rfl⟩ := fieldBytes_wire (Wire.of_wire hw)
    rw [marshalLeaf_plain hk buf off v (by have := hfit off k.width rfl; omega)
      (fun b' hb' => by rw [he] at hb'; cases hb'; exact (Wire.of_wire hw).length_le), he]
    cases ob <;> rfl

theorem marshalLeaf_okWithin (hg : goValue v = true) (ht : tagsOk l = true) : okWithin buf l (marshalLeaf goodFacts BCD.canonical buf l v) := by
  cases l using leafCases with
  | skip => exact okWithin_refl buf _
  | som t =>
    have hf := hfit 0 1 rfl
    cases t with
    | none =>
      cases v <;> simp only [marshalLeaf] <;>
        first | exact okWithin_refl buf _ | exact okWithin_setAt buf hb _ 0 _ rfl hf
    | some t =>
      obtain ⟨n, hn⟩ := Option.isSome_iff_exists.1 ht
      rw [marshalLeaf_som hn _ buf v]; exact okWithin_setAt buf hb _ 0 _ rfl hf
  | msgType t =>
    have hf := hfit 1 1 rfl
    cases t with
    | none =>
      cases v <;> simp only [marshalLeaf] <;>
        first | exact okWithin_refl buf _ | exact okWithin_setAt buf hb _ 1 _ rfl hf
    | some t =>
      obtain ⟨n, hn⟩ := Option.isSome_iff_exists.1 ht
      rw [marshalLeaf_msgType hn _ buf v]; exact okWithin_setAt buf hb _ 1 _ rfl hf
  | fixed off t =>
    obtain ⟨n, hn⟩ := Option.isSome_iff_exists.1 ht
    rw [marshalLeaf_fixed hn _ buf v off]
    exact okWithin_setAt buf hb _ off _ rfl (hfit off 1 rfl)
  | plain off k tag hk =>
    have hf := hfit off k.width rfl
    rw [marshalLeaf_plain hk buf off v (by omega) (fun b h => fieldBytes_width k v b hg h)]
    rcases he : fieldBytes k v with _ | _ | b
    · trivial
    · exact okWithin_refl buf _
    · exact okWithin_write buf _ off k.width b rfl (fieldBytes_width k v b hg he)
end leaf

def allGo (vs : List Val) : Prop := ∀ v ∈ vs, goValue v = true

theorem marshalLeaves_pieces (ls : List Leaf) (vs : List Val) (ps : List Piece) (h : pieces ls vs = some ps) :
    ∀ buf : Bytes, buf.length = 64 → (∀ l ∈ ls, InMessage l) →
      marshalLeaves goodFacts BCD.canonical ls vs buf = .ok (applyPieces buf ps) := by
  induction ls, vs, ps, h using pieces_induction with
  | nil => intros; rfl
  | cons l ls v vs p ps hw _ ih =>
    intro buf hb hfit
    rw [marshalLeaves, marshalLeaf_wire buf hb l v (hfit l (by simp)) p hw]
    exact ih _ (by simp [hb]) (fun l' hl' => hfit l' (by simp [hl']))

theorem marshalLeaves_writes : ∀ (ls : List Leaf) (vs : List Val) (buf : Bytes), buf.length = 64 → allGo vs →
    (∀ l ∈ ls, tagsOk l = true ∧ InMessage l) →
    marshalLeaves goodFacts BCD.canonical ls vs buf = .err ∨
    ∃ ps, Writes ls vs ps ∧ marshalLeaves goodFacts BCD.canonical ls vs buf = .ok (applyPieces buf ps)
  | [], vs, buf, _, _, _ => Or.inr ⟨[], .done (.inl rfl), by cases vs <;> rfl⟩
  | l :: ls, [], buf, _, _, _ => Or.inr ⟨[], .done (.inr rfl), rfl⟩
  | l :: ls, v :: vs, buf, hb, hgo, hok => by
    obtain ⟨ht, hfit⟩ := hok l (by simp)
    have hgen := marshalLeaf_okWithin buf hb l v hfit (hgo v (by simp)) ht
    simp only [marshalLeaves]
    cases hm : marshalLeaf goodFacts BCD.canonical buf l v with
    | err => exact Or.inl rfl
    | panic => rw [hm] at hgen; exact hgen.elim
    | ok out =>
      rw [hm] at hgen
      obtain ⟨p, hwi, rfl⟩ := hgen
      rcases marshalLeaves_writes ls vs (writeAt buf p.1 p.2) (by rw [length_writeAt, hb])
          (fun x hx => hgo x (by simp [hx]))
        (fun l' hl' => hok l' (by simp [hl'])) with hr | ⟨ps, hE, hr⟩
      · exact Or.inl hr
      · -- when the value is in its domain the piece written is the specification's
        cases hq : leafWire l v with
        | none => exact Or.inr ⟨p :: ps, .cons hwi (fun q h => by rw [hq] at h; cases h) hE, hr⟩
        | some q =>
          have hwq := marshalLeaf_wire buf hb l v hfit q hq
          rw [hm, Outcome.ok.injEq] at hwq
          refine Or.inr ⟨q :: ps, .cons (leafWire_within l v q hq) (fun q' h => by rw [hq] at h; cases h; rfl) hE, ?_⟩
          show marshalLeaves goodFacts BCD.canonical ls vs (writeAt buf p.1 p.2) = _
          rw [hr, hwq]; rfl

theorem marshal_eq (T : BCD.Tables) (L : Layout) (vs : List Val) :
    marshal goodFacts T L vs = marshalLeaves goodFacts T L.leaves vs initBuf := rfl

/-- **marshal = image**: for every well-formed layout and every tuple of in-domain values the
    model of `Marshal` returns exactly the specification's image and does not panic -/
theorem marshal_image (L : Layout) (vs : List Val) (img : Bytes)
    (hwf : wf L.leaves = true) (himg : image L.leaves vs = some img) :
    marshal goodFacts BCD.canonical L vs = .ok img := by
  rw [image_eq] at himg
  obtain ⟨ps, hps, rfl⟩ := Option.map_eq_some_iff.1 himg
  obtain ⟨hfit, hdis, _, _⟩ := (wf_iff _).1 hwf
  have hE := Writes.of_pieces _ _ _ hps
  rw [marshal_eq, marshalLeaves_pieces L.leaves vs ps hps initBuf (by simp [initBuf]) hfit,
    applyPieces_image ps (hE.fit hfit) (hE.pairwise_disj (pairwise_extDisj _ hdis))]

/-- the in-domain pieces and the ranges of the out-of-domain fields, as `Spec.Codec.confined` computes them -/
def goodOf (ls : List Leaf) (vs : List Val) : List Piece := (ls.zip vs).filterMap fun (l, v) => leafWire l v
def wildOf (ls : List Leaf) (vs : List Val) : List (Nat × Nat) :=
  (ls.zip vs).filterMap fun (l, v) => match leafWire l v with | some _ => none | none => extent l

theorem confined_eq (ls : List Leaf) (vs : List Val) (out : Bytes) :
    confined ls vs out = (out.length == 64 && (List.range 64).all fun i =>
      (wildOf ls vs).any (fun (o, w) => o ≤ i && i < o + w) || out.getD i 0 == imageByte (goodOf ls vs) i) := rfl

/-- away from the ranges of the out-of-domain fields, the piece that covers a position is an in-domain piece -/
theorem Writes.find_covers {ls : List Leaf} {vs : List Val} {ps : List Piece} (hE : Writes ls vs ps) (i : Nat)
    (hw : (wildOf ls vs).any (fun (o, w) => decide (o ≤ i) && decide (i < o + w)) = false) :
    ps.find? (covers i) = (goodOf ls vs).find? (covers i) := by
  induction hE with
  | done h => rcases h with rfl | rfl <;> simp [goodOf]
  | @cons l ls v vs p ps hwi hsame _ ih =>
    cases hq : leafWire l v with
    | some q =>
      cases hsame q hq
      have hg : goodOf (l :: ls) (v :: vs) = p :: goodOf ls vs := by simp [goodOf, hq]
      have hwd : wildOf (l :: ls) (v :: vs) = wildOf ls vs := by simp [wildOf, hq]
      rw [hg, List.find?_cons, List.find?_cons, ih (hwd ▸ hw)]
    | none =>
      have hg : goodOf (l :: ls) (v :: vs) = goodOf ls vs := by simp [goodOf, hq]
      -- the piece lies inside the leaf's own range, which is one of the excluded ones
      have hc : covers i p = false ∧ (wildOf ls vs).any (fun (o, w) => decide (o ≤ i) && decide (i < o + w)) = false := by
        rcases within_cases hwi with ⟨he, rfl⟩ | ⟨o, w, he, hwi⟩
        · exact ⟨by simp [covers], by simpa [wildOf, hq, he] using hw⟩
        · have : wildOf (l :: ls) (v :: vs) = (o, w) :: wildOf ls vs := by simp [wildOf, hq, he]
          rw [this, List.any_cons, Bool.or_eq_false_iff] at hw
          refine ⟨?_, hw.2⟩
          have h1 := hw.1
          simp only [Bool.and_eq_false_iff, decide_eq_false_iff_not] at h1
          rw [covers_eq_false_iff]
          omega
      rw [hg, List.find?_cons, hc.1, ih hc.2]

/-- **confinement**: for every well-formed layout and EVERY tuple of values a Go program can hold, the model of
    `Marshal` does not panic, and when it returns bytes every position outside the ranges of the out-of-domain
    fields is the image rule's byte -/
theorem marshal_confined (L : Layout) (vs : List Val) (hwf : wf L.leaves = true) (hgo : allGo vs) :
    marshal goodFacts BCD.canonical L vs ≠ .panic ∧
    ∀ out, marshal goodFacts BCD.canonical L vs = .ok out → confined L.leaves vs out = true := by
  obtain ⟨hfit, hdis, htags, _⟩ := (wf_iff _).1 hwf
  rw [marshal_eq]
  rcases marshalLeaves_writes L.leaves vs initBuf (by simp [initBuf]) hgo (fun l hl => ⟨htags l hl, hfit l hl⟩)
    with herr | ⟨ps, hE, hok⟩
  · rw [herr]; exact ⟨by simp, fun out h => by cases h⟩
  · rw [hok]
    refine ⟨by simp, ?_⟩
    rintro out ⟨⟩
    rw [confined_eq]
    simp only [Bool.and_eq_true, beq_iff_eq, List.all_eq_true, List.mem_range, Bool.or_eq_true]
    refine ⟨by rw [length_applyPieces]; simp [initBuf], fun i hi => ?_⟩
    cases hw : (wildOf L.leaves vs).any (fun (o, w) => decide (o ≤ i) && decide (i < o + w)) with
    | true => exact Or.inl rfl
    | false =>
      right
      rw [getD_applyPieces ps (hE.fit hfit) (hE.pairwise_disj (pairwise_extDisj _ hdis)) i hi, imageByte_eq, imageByte_eq,
        hE.find_covers i hw]

end Uhppote.Proofs.Codec
