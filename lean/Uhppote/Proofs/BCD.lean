import Uhppote.Model.BCD
import Uhppote.Spec.BCD
/-! The Go loops of encoding/bcd (model) compute the packed-BCD specification, whose `pack` and `unpack` are mutually
    inverse (C12); `encode_unpack` and `unpack_inj` are what the codec proofs use of it. -/
namespace Uhppote.Proofs.BCD
open Uhppote.Model.BCD
open Uhppote.Spec.BCD (isDigit okByte pad pack unpack)

/-! The encoding table is only ever asked about a byte: read off over all 256 values. -/

theorem lookup_enc : ∀ n, n < 256 →
    lookup canonical.enc n = if 48 ≤ n ∧ n ≤ 57 then some (n - 48) else none := by
  decide +kernel

/-! The masks cut a byte into its two nibbles; each decoding table maps a nibble 0..9 to its digit. -/

theorem and_hiMask : ∀ n, n < 256 → n &&& 240 = n / 16 * 16 := by decide +kernel

theorem decHi_row : ∀ h, h < 16 → lookup canonical.decHi (h * 16) = if h ≤ 9 then some (48 + h) else none := by
  decide +kernel

theorem decLo_row : ∀ l, l < 16 → lookup canonical.decLo l = if l ≤ 9 then some (48 + l) else none := by
  decide +kernel

theorem lookup_decHi (n : Nat) (h : n < 256) :
    lookup canonical.decHi (n &&& 240) = if n / 16 ≤ 9 then some (48 + n / 16) else none := by
  rw [and_hiMask n h]; exact decHi_row _ (by omega)

theorem lookup_decLo (n : Nat) :
    lookup canonical.decLo (n &&& 15) = if n % 16 ≤ 9 then some (48 + n % 16) else none := by
  rw [Nat.and_two_pow_sub_one_eq_mod n 4]; exact decLo_row _ (Nat.mod_lt n (by decide))

theorem isDigit_iff (b : UInt8) : isDigit b = true ↔ (48 ≤ b.toNat ∧ b.toNat ≤ 57) := by
  simp [isDigit]

theorem encodeLoop_digit {c : UInt8} (h : isDigit c = true) (r buf : Bytes) (ix : Nat) :
    encodeLoop canonical (c :: r) buf ix =
      encodeLoop canonical r (buf.set (ix / 2) (buf.getD (ix / 2) 0 * 16 + UInt8.ofNat (c.toNat - 48))) (ix + 1) := by
  simp only [encodeLoop, lookup_enc _ c.toNat_lt, (isDigit_iff c).1 h, and_self, if_true]

theorem encodeLoop_nondigit {c : UInt8} (h : isDigit c = false) (r buf : Bytes) (ix : Nat) :
    encodeLoop canonical (c :: r) buf ix = none := by
  have : ¬ (48 ≤ c.toNat ∧ c.toNat ≤ 57) := fun hc => by simp [(isDigit_iff c).2 hc] at h
  simp only [encodeLoop, lookup_enc _ c.toNat_lt, this, if_false]

/-- two turns at an even index: both digits go into the byte there, which was zero -/
theorem encodeLoop_pair {a b : UInt8} (ha : isDigit a = true) (hb : isDigit b = true) (r pre z : Bytes) :
    encodeLoop canonical (a :: b :: r) (pre ++ 0 :: z) (2 * pre.length) =
      encodeLoop canonical r (pre ++ [UInt8.ofNat ((a.toNat - 48) * 16 + (b.toNat - 48))] ++ z)
        (2 * (pre ++ [UInt8.ofNat ((a.toNat - 48) * 16 + (b.toNat - 48))]).length) := by
  have e1 : 2 * pre.length / 2 = pre.length := by omega
  have e2 : (2 * pre.length + 1) / 2 = pre.length := by omega
  rw [encodeLoop_digit ha, encodeLoop_digit hb, e1, e2]
  simp [UInt8.ofNat_add, UInt8.ofNat_mul, Nat.mul_add]

/-- the loop on an even number of digits, from an even index, on a buffer that is zero from there on
    and has exactly the room they need -/
theorem loop_pairs : ∀ (ps pre : Bytes), ps.length % 2 = 0 → ps.all isDigit = true →
    encodeLoop canonical ps (pre ++ zeros (ps.length / 2)) (2 * pre.length) = some (pre ++ pack ps)
  | [], pre, _, _ => by simp [encodeLoop, pack, zeros]
  | [_], _, h, _ => by simp at h
  | a :: b :: r, pre, hl, hd => by
    simp only [List.all_cons, Bool.and_eq_true] at hd
    simp only [List.length_cons] at hl
    have hz : zeros ((r.length + 1 + 1) / 2) = 0 :: zeros (r.length / 2) := by
      rw [Nat.add_assoc, Nat.add_div_right _ (by decide)]; rfl
    rw [List.length_cons, List.length_cons, hz, encodeLoop_pair hd.1 hd.2.1,
      loop_pairs r _ (by omega) hd.2.2]
    simp [pack]

theorem loop_bad : ∀ (s buf : Bytes) (ix : Nat), s.all isDigit = false → encodeLoop canonical s buf ix = none
  | [], _, _, h => by simp at h
  | c :: r, buf, ix, h => by
    cases hc : isDigit c with
    | false => exact encodeLoop_nondigit hc r buf ix
    | true =>
      rw [encodeLoop_digit hc]
      exact loop_bad r _ _ (by simpa [hc] using h)

theorem pack_length : ∀ ps : Bytes, (pack ps).length = ps.length / 2
  | [] => rfl
  | [_] => by simp [pack]
  | _ :: _ :: r => by
    simp only [pack, List.length_cons, pack_length r, Nat.add_assoc, Nat.add_div_right _ (show 0 < 2 by decide)]

theorem pad_even (s : Bytes) : (pad s).length % 2 = 0 := by
  unfold pad; split
  · simp only [List.length_cons]; omega
  · omega

theorem pad_length (s : Bytes) : (pad s).length / 2 = (s.length + 1) / 2 := by
  unfold pad; split
  · simp only [List.length_cons]
  · omega

theorem pad_all (s : Bytes) (h : s.all isDigit = true) : (pad s).all isDigit = true := by
  unfold pad; split
  · simp only [List.all_cons, h, Bool.and_true]; decide
  · exact h

theorem encode_eq_some {s bs : Bytes} :
    Spec.BCD.encode s = some bs ↔ s.all isDigit = true ∧ pack (pad s) = bs := by
  unfold Spec.BCD.encode; split <;> simp [*]

theorem encode_model_eq_spec (s : Bytes) : encode canonical s = Spec.BCD.encode s := by
  unfold encode Spec.BCD.encode
  cases hd : s.all isDigit with
  | false => exact loop_bad _ _ _ hd
  | true =>
    have key := loop_pairs (pad s) [] (pad_even s) (pad_all s hd)
    rw [pad_length, List.nil_append, List.nil_append] at key
    rw [if_pos rfl, ← key]
    unfold pad
    split
    · -- odd length: the pad digit leaves the zero buffer as it is and moves the index to 1
      rename_i hodd
      obtain ⟨k, hk⟩ : ∃ k, (s.length + 1) / 2 = k + 1 := ⟨s.length / 2, by omega⟩
      rw [hodd, hk, encodeLoop_digit (c := 48) (by decide)]
      rfl
    · rw [show s.length % 2 = 0 by omega]; rfl

theorem decode_eq_some {bs s : Bytes} :
    Spec.BCD.decode bs = some s ↔ bs.all okByte = true ∧ unpack bs = s := by
  unfold Spec.BCD.decode; split <;> simp [*]

theorem decode_model_eq_spec : ∀ bs : Bytes, decode canonical bs = Spec.BCD.decode bs
  | [] => rfl
  | b :: r => by
    have ih := decode_model_eq_spec r
    have hb : b.toNat < 256 := UInt8.toNat_lt b
    simp only [decode, ih, Spec.BCD.decode, List.all_cons, okByte]
    have e1 : canonical.hiMask = 240 := rfl
    have e2 : canonical.loMask = 15 := rfl
    rw [e1, e2, lookup_decHi _ hb, lookup_decLo]
    by_cases h1 : b.toNat / 16 ≤ 9 <;> by_cases h2 : b.toNat % 16 ≤ 9 <;>
      by_cases h3 : r.all okByte = true <;>
      simp [h1, h2, h3, unpack]

theorem unpack_length : ∀ bs : Bytes, (unpack bs).length = 2 * bs.length
  | [] => rfl
  | _ :: r => by simp only [unpack, List.length_cons, unpack_length r, Nat.mul_add]

/-- two digits and the byte that holds them: each determines the other (this lemma and the next) -/
theorem unpack_pack_byte {a b : UInt8} (ha : isDigit a = true) (hb : isDigit b = true) :
    let p := UInt8.ofNat ((a.toNat - 48) * 16 + (b.toNat - 48))
    okByte p = true ∧ UInt8.ofNat (48 + p.toNat / 16) = a ∧ UInt8.ofNat (48 + p.toNat % 16) = b := by
  have ha' := (isDigit_iff a).1 ha
  have hb' := (isDigit_iff b).1 hb
  intro p
  have hv : p.toNat = (a.toNat - 48) * 16 + (b.toNat - 48) := by
    rw [UInt8.toNat_ofNat']; omega
  refine ⟨?_, ?_, ?_⟩
  · simp only [okByte, hv, Bool.and_eq_true, decide_eq_true_eq]; omega
  · rw [hv, show 48 + ((a.toNat - 48) * 16 + (b.toNat - 48)) / 16 = a.toNat by omega, UInt8.ofNat_toNat]
  · rw [hv, show 48 + ((a.toNat - 48) * 16 + (b.toNat - 48)) % 16 = b.toNat by omega, UInt8.ofNat_toNat]

theorem pack_unpack_byte {b : UInt8} (h : okByte b = true) :
    let hi := UInt8.ofNat (48 + b.toNat / 16)
    let lo := UInt8.ofNat (48 + b.toNat % 16)
    isDigit hi = true ∧ isDigit lo = true ∧ UInt8.ofNat ((hi.toNat - 48) * 16 + (lo.toNat - 48)) = b := by
  simp only [okByte, Bool.and_eq_true, decide_eq_true_eq] at h
  intro hi lo
  have v1 : hi.toNat = 48 + b.toNat / 16 := by rw [UInt8.toNat_ofNat']; omega
  have v2 : lo.toNat = 48 + b.toNat % 16 := by rw [UInt8.toNat_ofNat']; omega
  refine ⟨(isDigit_iff _).2 (by omega), (isDigit_iff _).2 (by omega), ?_⟩
  rw [v1, v2, show (48 + b.toNat / 16 - 48) * 16 + (48 + b.toNat % 16 - 48) = b.toNat by omega,
    UInt8.ofNat_toNat]

theorem unpack_pack : ∀ ps : Bytes, ps.length % 2 = 0 → ps.all isDigit = true →
    unpack (pack ps) = ps ∧ (pack ps).all okByte = true
  | [], _, _ => ⟨rfl, rfl⟩
  | [_], h, _ => by simp at h
  | a :: b :: r, hl, hd => by
    simp only [List.all_cons, Bool.and_eq_true] at hd
    simp only [List.length_cons] at hl
    obtain ⟨h1, h2, h3⟩ := unpack_pack_byte hd.1 hd.2.1
    obtain ⟨i1, i2⟩ := unpack_pack r (by omega) hd.2.2
    simp only [pack, unpack, List.all_cons, h1, h2, h3, i1, i2, Bool.and_self, and_self]

theorem pack_unpack : ∀ bs : Bytes, bs.all okByte = true →
    (unpack bs).all isDigit = true ∧ pack (unpack bs) = bs
  | [], _ => ⟨rfl, rfl⟩
  | b :: r, h => by
    simp only [List.all_cons, Bool.and_eq_true] at h
    obtain ⟨h1, h2, h3⟩ := pack_unpack_byte h.1
    obtain ⟨i1, i2⟩ := pack_unpack r h.2
    simp only [unpack, pack, List.all_cons, h1, h2, h3, i1, i2, Bool.and_self, and_self]

theorem encode_unpack {bs : Bytes} (h : bs.all okByte = true) : encode canonical (unpack bs) = some bs := by
  obtain ⟨h1, h2⟩ := pack_unpack bs h
  rw [encode_model_eq_spec]
  refine encode_eq_some.2 ⟨h1, ?_⟩
  rw [pad, if_neg (by rw [unpack_length]; omega), h2]

theorem unpack_inj {a b : Bytes} (ha : a.all Spec.BCD.okByte = true) (hb : b.all Spec.BCD.okByte = true)
    (h : Spec.BCD.unpack a = Spec.BCD.unpack b) : a = b := by
  rw [← (pack_unpack a ha).2, h, (pack_unpack b hb).2]

end Uhppote.Proofs.BCD
