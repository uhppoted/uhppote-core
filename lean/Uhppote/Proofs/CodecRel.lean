import Uhppote.Proofs.CodecLeaves
/-! Every reader of the model, on EVERY byte string of its field's width, stays inside the specification's decoding
    relation `Spec.Codec.read`: in-domain bytes give exactly the protocol value, the sentinels give "no value",
    out-of-domain bytes give an error or the zero value, never another in-domain value (C02); hence `unmarshal` is
    sound for every well-formed layout and every byte string, and in particular never panics (C04, C18 iii). -/
namespace Uhppote.Proofs.Codec
open Uhppote.Model Uhppote.Spec.Codec

/-- model outcome vs specification verdict for one field. For the "no value" sentinels the model returns the FIRST
    spelling the specification lists (that much more than `acceptsUnmarshal` asks is what lets the round trip follow
    from this relation, `Rel.eq_ok`); for out-of-domain bytes an error or any of the listed zero values -/
def Rel (o : Outcome Val) (r : Read) : Prop :=
  match o, r with
  | .ok v, .exact x => v = x
  | .ok v, .noValue xs => xs.head? = some v
  | .ok v, .invalid zs => v ∈ zs
  | .err, .invalid _ => True
  | .err, .mustFail => True
  | _, _ => False

theorem decode_canonical (b : Bytes) :
    BCD.decode BCD.canonical b = if b.all nibblesOk then some (Spec.BCD.unpack b) else none :=
  Proofs.BCD.decode_model_eq_spec b

/-- a decimal byte string has the digit string `s` exactly when it is the byte string `b` that spells `s` -/
theorem unpack_eq_iff {a : Bytes} (ha : a.all nibblesOk = true) (b s : Bytes) (hb : b.all nibblesOk = true)
    (hs : Spec.BCD.unpack b = s) : Spec.BCD.unpack a = s ↔ a = b :=
  ⟨fun h => Proofs.BCD.unpack_inj ha hb (h.trans hs.symm), fun h => by rw [h, hs]⟩

theorem digitsVal_pair (x : UInt8) :
    digitsVal [UInt8.ofNat (48 + x.toNat / 16), UInt8.ofNat (48 + x.toNat % 16)] = unbcd2 x := by
  have := UInt8.toNat_lt x
  simp only [digitsVal, List.foldl, UInt8.toNat_ofNat', unbcd2]; omega

theorem digitsVal_pair2 (x y : UInt8) :
    digitsVal [UInt8.ofNat (48 + x.toNat / 16), UInt8.ofNat (48 + x.toNat % 16),
               UInt8.ofNat (48 + y.toNat / 16), UInt8.ofNat (48 + y.toNat % 16)] = unbcd2 x * 100 + unbcd2 y := by
  rw [← digitsVal_pair x, ← digitsVal_pair y]
  simp only [digitsVal, List.foldl]; omega

theorem validDate_iff (d : YMD) : validDate d = validYMD d.y d.m d.d := rfl

/-- the HH:mm bounds of types/HHmm.go (`C18_hhmm_bounds`: the regenerated ones) -/
abbrev B0 : HHmmBounds := ⟨24, 59, true⟩

theorem rel_date (c y m d : UInt8) :
    Rel (decField goodFacts BCD.canonical B0 .date [c, y, m, d]) (Spec.Codec.read .date none [c, y, m, d]) ∧
    Rel (decField goodFacts BCD.canonical B0 .datePtr [c, y, m, d]) (Spec.Codec.read .datePtr none [c, y, m, d]) := by
  simp only [decField, decDate, decDatePtr, decode_canonical, Spec.Codec.read, readDate]
  by_cases hok : [c, y, m, d].all nibblesOk = true
  · -- the code compares digit strings with the sentinels' digits, the specification bytes with the sentinels
    have h0 := unpack_eq_iff hok [0, 0, 0, 0] [48,48,48,48,48,48,48,48] (by decide) (by decide)
    have h1 := unpack_eq_iff hok [0, 1, 1, 1] [48,48,48,49,48,49,48,49] (by decide) (by decide)
    simp only [Spec.BCD.unpack] at h0 h1
    simp only [hok, if_true, Bool.not_true, Bool.false_eq_true, if_false, Spec.BCD.unpack, h0, h1, decDateCore,
      List.take, List.drop, digitsVal_pair, digitsVal_pair2, validDate_iff, List.cons.injEq, and_true]
    -- both sides are now: a sentinel → no value; a calendar date → that date; else the zero value / an error
    by_cases hs : c = 0 ∧ y = 0 ∧ m = 0 ∧ d = 0 ∨ c = 0 ∧ y = 1 ∧ m = 1 ∧ d = 1
    · simp [hs, Rel]
    · by_cases hv : validYMD (unbcd2 c * 100 + unbcd2 y) (unbcd2 m) (unbcd2 d) = true <;> simp [hs, hv, Rel]
  · simp [hok, Rel]

/-- a decimal byte whose two digits spell `n ≤ 9` is the byte `n` -/
theorem eq_of_unbcd2 {x : UInt8} (n : Nat) (hn : n ≤ 9) (h : unbcd2 x = n) : x = UInt8.ofNat n := by
  unfold unbcd2 at h
  apply UInt8.toNat_inj.1
  simp [UInt8.toNat_ofNat']; omega

theorem rel_dateTime (c y mo d h mi s : UInt8) :
    Rel (decField goodFacts BCD.canonical B0 .dateTime [c, y, mo, d, h, mi, s])
      (Spec.Codec.read .dateTime none [c, y, mo, d, h, mi, s]) ∧
    Rel (decField goodFacts BCD.canonical B0 .dateTimePtr [c, y, mo, d, h, mi, s])
      (Spec.Codec.read .dateTimePtr none [c, y, mo, d, h, mi, s]) := by
  simp only [decField, decDateTime, decDateTimePtr, decode_canonical, Spec.Codec.read, readDateTime]
  by_cases hok : [c, y, mo, d, h, mi, s].all nibblesOk = true
  · simp only [hok, if_true, Bool.not_true, Bool.false_eq_true, if_false, Spec.BCD.unpack, decDateTimeCore,
      List.take, List.drop, digitsVal_pair, digitsVal_pair2, validDate_iff, List.cons.injEq, and_true]
    by_cases h0 : c = 0 ∧ y = 0 ∧ mo = 0 ∧ d = 0 ∧ h = 0 ∧ mi = 0 ∧ s = 0
    · simp [h0, Rel]
    · by_cases h1 : c = 0 ∧ y = 1 ∧ mo = 1 ∧ d = 1 ∧ h = 0 ∧ mi = 0 ∧ s = 0
      · simp [h1, Rel]
      · -- 20 00 00 00 00 00 00 (what a controller that was never set reports): "no value" in the code, an impossible
        -- date for the specification, which allows the zero value there
        by_cases h2 : c = 32 ∧ y = 0 ∧ mo = 0 ∧ d = 0 ∧ h = 0 ∧ mi = 0 ∧ s = 0
        · obtain ⟨rfl, rfl, rfl, rfl, rfl, rfl, rfl⟩ := h2
          simp [Rel, unbcd2, validYMD]
        · by_cases hv : (validYMD (unbcd2 c * 100 + unbcd2 y) (unbcd2 mo) (unbcd2 d) && decide (unbcd2 h < 24) &&
              decide (unbcd2 mi < 60) && decide (unbcd2 s < 60)) = true
          · -- the zero instant would be the 00010101000000 sentinel, excluded above
            have hnz : ¬ (unbcd2 c * 100 + unbcd2 y = 1 ∧ unbcd2 mo = 1 ∧ unbcd2 d = 1 ∧ unbcd2 h = 0 ∧
                unbcd2 mi = 0 ∧ unbcd2 s = 0) := by
              rintro ⟨a1, a2, a3, a4, a5, a6⟩
              -- century 0 and year 1, from `a1`
              exact h1 ⟨eq_of_unbcd2 0 (by omega) (by omega), eq_of_unbcd2 1 (by omega) (by omega),
                eq_of_unbcd2 1 (by omega) a2, eq_of_unbcd2 1 (by omega) a3, eq_of_unbcd2 0 (by omega) a4,
                eq_of_unbcd2 0 (by omega) a5, eq_of_unbcd2 0 (by omega) a6⟩
            simp [h0, h1, h2, hv, hnz, Rel]
          · simp [h0, h1, h2, hv, Rel]
  · -- the three sentinels are decimal
    have hs : ¬ (c = 0 ∧ y = 0 ∧ mo = 0 ∧ d = 0 ∧ h = 0 ∧ mi = 0 ∧ s = 0 ∨
        c = 0 ∧ y = 1 ∧ mo = 1 ∧ d = 1 ∧ h = 0 ∧ mi = 0 ∧ s = 0 ∨
        c = 32 ∧ y = 0 ∧ mo = 0 ∧ d = 0 ∧ h = 0 ∧ mi = 0 ∧ s = 0) := by
      intro hc; apply hok
      rcases hc with ⟨rfl, rfl, rfl, rfl, rfl, rfl, rfl⟩ | ⟨rfl, rfl, rfl, rfl, rfl, rfl, rfl⟩ |
        ⟨rfl, rfl, rfl, rfl, rfl, rfl, rfl⟩ <;> decide
    simp [hok, hs, Rel]

theorem rel_sysDate (y m d : UInt8) :
    Rel (decField goodFacts BCD.canonical B0 .sysDate [y, m, d]) (Spec.Codec.read .sysDate none [y, m, d]) := by
  simp only [decField, decSysDate, decode_canonical, Spec.Codec.read]
  by_cases hz : y = 0 ∧ m = 0 ∧ d = 0
  · obtain ⟨rfl, rfl, rfl⟩ := hz
    simp [Rel, nibblesOk, unbcd2, validDate]
  · by_cases hok : [y, m, d].all nibblesOk = true
    · simp only [hok, if_true, Bool.not_true, Bool.false_eq_true, if_false, Spec.BCD.unpack,
        List.take, List.drop, digitsVal_pair, validDate_iff, List.cons.injEq, and_true, hz]
      have hy : (if unbcd2 y ≥ 69 then 1900 + unbcd2 y else 2000 + unbcd2 y) =
          (if unbcd2 y ≥ 69 then 1900 else 2000) + unbcd2 y := by split <;> rfl
      rw [hy]
      by_cases hv : validYMD ((if unbcd2 y ≥ 69 then 1900 else 2000) + unbcd2 y) (unbcd2 m) (unbcd2 d) = true <;>
        simp [hv, Rel]
    · simp [hok, hz, Rel]

theorem rel_sysTime (h m s : UInt8) :
    Rel (decField goodFacts BCD.canonical B0 .sysTime [h, m, s]) (Spec.Codec.read .sysTime none [h, m, s]) := by
  simp only [decField, decSysTime, decode_canonical, Spec.Codec.read]
  by_cases hok : [h, m, s].all nibblesOk = true
  · simp only [hok, if_true, Bool.true_and, Spec.BCD.unpack, List.take, List.drop, digitsVal_pair]
    by_cases hv : (decide (unbcd2 h < 24) && decide (unbcd2 m < 60) && decide (unbcd2 s < 60)) = true <;>
      simp [hv, Rel]
  · simp [hok, Rel]

theorem rel_hhmm (h m : UInt8) :
    Rel (decField goodFacts BCD.canonical B0 .hhmm [h, m]) (Spec.Codec.read .hhmm none [h, m]) ∧
    Rel (decField goodFacts BCD.canonical B0 .hhmmPtr [h, m]) (Spec.Codec.read .hhmmPtr none [h, m]) := by
  simp only [decField, decHHmm, decode_canonical, Spec.Codec.read]
  by_cases hok : [h, m].all nibblesOk = true
  · simp only [hok, if_true, Bool.true_and, Spec.BCD.unpack, List.take, List.drop, digitsVal_pair]
    -- the three guards of the parser together are the domain predicate
    have hd : hhmmInDomain ⟨(unbcd2 h : Int), (unbcd2 m : Int)⟩ =
        !(decide (unbcd2 h > 24) || decide (unbcd2 m > 59) || decide (unbcd2 h = 24 ∧ unbcd2 m ≠ 0)) := by
      rw [Bool.eq_iff_iff]
      simp only [hhmmInDomain, Bool.and_eq_true, Bool.or_eq_true, decide_eq_true_eq, Bool.not_eq_true',
        Bool.or_eq_false_iff, decide_eq_false_iff_not, bne_iff_ne, beq_iff_eq]
      omega
    rw [hd]
    by_cases h1 : unbcd2 h > 24
    · simp [h1, Rel]
    · by_cases h2 : unbcd2 m > 59
      · simp [h1, h2, Rel]
      · by_cases h3 : unbcd2 h = 24 ∧ unbcd2 m ≠ 0 <;> simp [h1, h2, h3, Rel]
  · simp [hok, Rel]

theorem rel_decField : ∀ (k : Kind) (b : Bytes), b.length = k.width →
    Rel (decField goodFacts BCD.canonical B0 k b) (Spec.Codec.read k none b)
  | .date, [c, y, m, d], _ => (rel_date c y m d).1
  | .datePtr, [c, y, m, d], _ => (rel_date c y m d).2
  | .dateTime, [c, y, mo, d, h, mi, s], _ => (rel_dateTime c y mo d h mi s).1
  | .dateTimePtr, [c, y, mo, d, h, mi, s], _ => (rel_dateTime c y mo d h mi s).2
  | .sysDate, [y, m, d], _ => rel_sysDate y m d
  | .sysTime, [h, m, s], _ => rel_sysTime h m s
  | .hhmm, [h, m], _ => (rel_hhmm h m).1
  | .hhmmPtr, [h, m], _ => (rel_hhmm h m).2
  | .u8, [x], _ => by simp [decField, Spec.Codec.read, Rel]
  | .u16, [x, y], _ => by simp [decField, Spec.Codec.read, Rel, goodFacts, unle16]
  | .u32, [x, y, z, w], _ | .serial, [x, y, z, w], _ => by simp [decField, Spec.Codec.read, Rel, goodFacts, unle32]
  | .bool, [x], _ => by
    simp only [decField, Spec.Codec.read, goodFacts, ← UInt8.toNat_inj]
    by_cases h1 : x.toNat = 1 <;> by_cases h0 : x.toNat = 0 <;> simp [h1, h0, Rel]
  | .ipv4, [x, y, z, w], _ => by simp [decField, Spec.Codec.read, Rel, v4InV6Prefix]
  | .addrPort, [x, y, z, w, u, v], _ => by simp [decField, Spec.Codec.read, Rel]
  | .mac, _, _ | .macAddress, _, _ => by simp [decField, Spec.Codec.read, Rel]
  | .pin, [x, y, z], _ => by simp [decField, Spec.Codec.read, Rel, unle32]
  | .version, [x, y], _ => by simp [decField, Spec.Codec.read, Rel, unbe16]

theorem readAt_one (bytes : Bytes) (off : Nat) (h : off < bytes.length) : readAt bytes off 1 = [bytes.getD off 0] := by
  simp [readAt, List.getD_eq_getElem?_getD, List.getElem?_eq_getElem h, List.take_one, List.head?_drop]

theorem rel_leaf (bytes : Bytes) (hl : bytes.length = 64) (l : Leaf) (ht : tagsOk l = true)
    (hfit : InMessage l) :
    Rel (unmarshalLeaf goodFacts BCD.canonical B0 bytes l) (readLeaf bytes l) := by
  cases l using leafCases with
  | skip => simp [unmarshalLeaf, readLeaf, Rel]
  | som t => simp [unmarshalLeaf, readLeaf, Rel]
  | msgType t =>
    cases t with
    | none =>
      simp only [unmarshalLeaf, readLeaf, ← UInt8.toNat_inj]
      generalize bytes.getD 1 0 = x
      by_cases h0 : x.toNat = 0 <;> simp [h0, Rel, ← UInt8.toNat_inj]
    | some t =>
      obtain ⟨n, hn⟩ := Option.isSome_iff_exists.1 ht
      simp only [unmarshalLeaf_msgType hn, readLeaf, hn]
      generalize bytes.getD 1 0 = x
      by_cases hb : x.toNat = n <;> simp [hb, Rel]
  | fixed off t =>
    obtain ⟨n, hn⟩ := Option.isSome_iff_exists.1 ht
    have hf : off + 1 ≤ 64 := hfit off 1 rfl
    simp only [unmarshalLeaf_fixed hn, readLeaf, Kind.width, readAt_one bytes off (by omega), Spec.Codec.read, hn, hl,
      hf, if_true]
    generalize bytes.getD off 0 = x
    by_cases hb : x.toNat = n <;> simp [hb, Rel]
  | plain off k tag hk =>
    have hf := hfit off k.width rfl
    rw [unmarshalLeaf_plain hk, if_pos (by omega), readLeaf, read_plain hk]
    exact rel_decField k _ (length_readAt bytes off k.width (by omega))

/-- the per-leaf tests of `Spec.Codec.acceptsUnmarshal` under names (definitionally its two lambdas) -/
def badAt (bytes : Bytes) (l : Leaf) : Bool :=
  match readLeaf bytes l with
  | .exact _ | .noValue _ => false
  | _ => true

def okAt (bytes : Bytes) (p : Leaf × Val) : Bool :=
  match readLeaf bytes p.1 with
  | .exact x => p.2 == x
  | .noValue xs => xs.contains p.2
  | .invalid zs => zs.contains p.2
  | .mustFail => false

theorem Rel.to_okAt {bytes : Bytes} {l : Leaf} {v : Val} (h : Rel (.ok v) (readLeaf bytes l)) :
    okAt bytes (l, v) = true := by
  unfold okAt; unfold Rel at h
  cases hr : readLeaf bytes l <;> simp only [hr] at h ⊢
  · simp [h]
  · simpa using List.mem_of_mem_head? h
  · simpa using h

theorem Rel.to_badAt {bytes : Bytes} {l : Leaf} (h : Rel .err (readLeaf bytes l)) : badAt bytes l = true := by
  unfold badAt; unfold Rel at h
  cases hr : readLeaf bytes l <;> simp only [hr] at h ⊢

theorem leaves_sound (bytes : Bytes) (hl : bytes.length = 64) : ∀ (ls : List Leaf),
    (∀ l ∈ ls, tagsOk l = true ∧ InMessage l) →
    match unmarshalLeaves goodFacts BCD.canonical B0 bytes ls with
    | (vs, .ok ()) => vs.length = ls.length ∧ (ls.zip vs).all (okAt bytes) = true
    | (_, .err) => ls.any (badAt bytes) = true
    | (_, .panic) => False
  | [], _ => by simp [unmarshalLeaves]
  | l :: ls, h => by
    have hl' := h l (by simp)
    have hrel := rel_leaf bytes hl l hl'.1 hl'.2
    have ih := leaves_sound bytes hl ls (fun l' hm => h l' (by simp [hm]))
    simp only [unmarshalLeaves]
    cases hu : unmarshalLeaf goodFacts BCD.canonical B0 bytes l with
    | ok v =>
      rw [hu] at hrel
      -- the rest of the walk: ok, error, panic
      rcases hr : unmarshalLeaves goodFacts BCD.canonical B0 bytes ls with ⟨vs, _ | _ | _⟩ <;> rw [hr] at ih
      · exact ⟨by simp [ih.1], by simp [hrel.to_okAt, ih.2]⟩
      · simp only at ih ⊢; simp [ih]
      · exact ih
    | err => rw [hu] at hrel; simp [hrel.to_badAt]
    | panic => rw [hu] at hrel; simp [Rel] at hrel

def toResult : Outcome (List Val) → Result
  | .ok vs => .ok vs
  | .err => .err
  | .panic => .panic

/-- the header test of `unmarshal` is the specification's -/
theorem headerOk_iff (bytes : Bytes) : headerOk bytes = true ↔
    bytes.length = 64 ∧ ¬ ((bytes.getD 0 0).toNat ≠ goodFacts.som ∧
      ((bytes.getD 0 0).toNat ≠ goodFacts.somAlt ∨ (bytes.getD 1 0).toNat ≠ goodFacts.somAltCode)) := by
  simp only [headerOk, goodFacts, Bool.and_eq_true, Bool.or_eq_true, beq_iff_eq, ← UInt8.toNat_inj]
  have e17 : (0x17 : UInt8).toNat = 23 := rfl
  have e19 : (0x19 : UInt8).toNat = 25 := rfl
  have e20 : (0x20 : UInt8).toNat = 32 := rfl
  rw [e17, e19, e20]
  omega

/-- `unmarshal` with the facts as they are regenerated (`goodFacts`): the specification's header test, then the walk over
    the leaves -/
theorem unmarshal_eq (T : BCD.Tables) (B : HHmmBounds) (L : Layout) (bytes : Bytes) :
    unmarshal goodFacts T B L bytes =
      if headerOk bytes = true then
        (match unmarshalLeaves goodFacts T B bytes L.leaves with
         | (vs, .ok ()) => .ok vs
         | (_, .err) => .err
         | (_, .panic) => .panic)
      else .err := by
  unfold unmarshal
  by_cases hh : headerOk bytes = true
  · obtain ⟨hlen, hsom⟩ := (headerOk_iff bytes).1 hh
    rw [if_neg (by simp [goodFacts, hlen]), if_neg hsom, unmarshalFields_eq_leaves _ _ _ _ rfl, if_pos hh]
    rfl
  · rw [if_neg hh]
    by_cases hlen : bytes.length = 64
    · rw [if_neg (by simp [goodFacts, hlen]), if_pos]
      exact Classical.byContradiction fun hc => hh ((headerOk_iff bytes).2 ⟨hlen, hc⟩)
    · rw [if_pos (by simpa [goodFacts] using hlen)]

/-- **decode is sound** for every well-formed layout, on EVERY
    byte string: the model's `Unmarshal` result is one the specification's decoding relation accepts -/
theorem unmarshal_sound (L : Layout) (hwf : wf L.leaves = true) (bytes : Bytes) :
    acceptsUnmarshal L.leaves bytes (toResult (unmarshal goodFacts BCD.canonical B0 L bytes)) = true := by
  rw [unmarshal_eq]
  by_cases hh : headerOk bytes = true
  · rw [if_pos hh]
    obtain ⟨hfit, _, htags, _⟩ := (wf_iff _).1 hwf
    have hs := leaves_sound bytes ((headerOk_iff bytes).1 hh).1 L.leaves (fun l hl => ⟨htags l hl, hfit l hl⟩)
    -- the walk: ok, error, panic (which `leaves_sound` excludes)
    rcases hr : unmarshalLeaves goodFacts BCD.canonical B0 bytes L.leaves with ⟨vs, _ | _ | _⟩ <;> rw [hr] at hs
    · simp only [toResult, acceptsUnmarshal, hh, Bool.true_and, Bool.and_eq_true, beq_iff_eq]
      exact hs
    · simp only [toResult, acceptsUnmarshal, hh, Bool.not_true, Bool.false_or]
      exact hs
    · exact hs.elim
  · simp [toResult, acceptsUnmarshal, hh]

/-! Not used by the proofs: `Fits` says of a whole layout what `InMessage` says leaf by leaf. -/

theorem all4 (c y m d : UInt8) : [c, y, m, d].all Spec.BCD.okByte = true ↔
    Spec.BCD.okByte c = true ∧ Spec.BCD.okByte y = true ∧ Spec.BCD.okByte m = true ∧ Spec.BCD.okByte d = true := by
  simp [List.all_cons]

/-- every offset-tagged field lies inside the buffer -/
def Fits (n : Nat) : List Leaf → Prop
  | [] => True
  | .at off k _ :: r => off + k.width ≤ n ∧ Fits n r
  | _ :: r => Fits n r

instance (n : Nat) : (ls : List Leaf) → Decidable (Fits n ls)
  | [] => isTrue trivial
  | .at off k _ :: r => by
    unfold Fits
    exact @instDecidableAnd _ _ _ (instDecidableFits n r)
  | .som _ :: r | .msgType _ :: r | .skip :: r => by
    unfold Fits
    exact instDecidableFits n r
where instDecidableFits (n : Nat) : (ls : List Leaf) → Decidable (Fits n ls)
  | [] => isTrue trivial
  | .at off k _ :: r => by
    unfold Fits
    exact @instDecidableAnd _ _ _ (instDecidableFits n r)
  | .som _ :: r | .msgType _ :: r | .skip :: r => by
    unfold Fits
    exact instDecidableFits n r

end Uhppote.Proofs.Codec
